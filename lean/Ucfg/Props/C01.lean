import Ucfg.Lemmas.Dict
import Ucfg.Lemmas.Merge
import Ucfg.Model.Reify
import Ucfg.Spec.C01
/-
  C01 — merge follows the selected policy exactly.

  Theorems about `mergeValsP` / `mergeDictP` / `mergeArrP` / `mergeP` (Model/Merge.lean,
  the transcription of mergeValues / mergeConfigDict / mergeConfigArr / mergeConfig), for
  every tree, every depth and each of the five global policies.
-/
namespace Ucfg.C01
open Ucfg

/-- Merging an empty config into A changes nothing (right identity), for every policy. -/
theorem merge_empty_right (h : Handling) (A : Val) (hA : A.isSub = true) :
    mergeP h A Val.empty = A := by
  cases A with
  | prim p => cases hA
  | dyn i e => cases hA
  | sub d a hd ha =>
    show mergeValsP h (some (.sub d a hd ha)) (.sub [] [] false false) = _
    rw [mergeValsP_sub_sub]
    cases h <;> simp [arrPolicy, mergeArrP, cpyA]

/-- Dictionaries are merged key by key: the value under `k` after merging B's dictionary
into A's is A's value when B does not mention `k`, and otherwise the merge of the two
values (stored as a copy unless it was merged in place).  This is "the union of the two
dictionaries at every level" stated pointwise. -/
theorem dict_pointwise (h : Handling) (d1 d2 : Dict) (k : String)
    (hnd : (dkeysOf d2).Nodup) :
    dget (mergeDictP h d1 d2) k =
      (match dget d2 k with
       | none => dget d1 k
       | some v => some (store (dget d1 k) v (mergeValsP h (dget d1 k) v))) := by
  induction d2 generalizing d1 with
  | nil => simp [mergeDictP]
  | cons kv r ih =>
    obtain ⟨k2, v2⟩ := kv
    simp only [dkeysOf, List.map_cons, List.nodup_cons] at hnd
    simp only [mergeDictP]
    rw [ih _ hnd.2]
    by_cases hk : k2 = k
    · subst hk
      have : dget r k2 = none := dget_none_of_not_mem hnd.1
      simp [this, dget, dget_dset_same]
    · simp only [dget, hk, if_false]
      rw [dget_dset_other hk]

/-- every key of A survives a merge under a non-replacing policy -/
theorem keys_of_A_survive (h : Handling) (d1 d2 : Dict) (k : String)
    (hnd : (dkeysOf d2).Nodup) (hk : (dget d1 k).isSome) :
    (dget (mergeDictP h d1 d2) k).isSome := by
  rw [isSome_dget_mergeDictP, hk, Bool.true_or]

/-- every key of B is present after the merge -/
theorem keys_of_B_present (h : Handling) (d1 d2 : Dict) (k : String)
    (hnd : (dkeysOf d2).Nodup) (hk : (dget d2 k).isSome) :
    (dget (mergeDictP h d1 d2) k).isSome := by
  rw [isSome_dget_mergeDictP, hk, Bool.or_true]

/-- Where the two sides are not both containers, B's value wins. -/
theorem nonContainer_right_wins (h : Handling) (o v : Val)
    (hv : toCfg? o = none ∨ toCfg? v = none) :
    mergeValsP h (some o) v = v := by
  unfold mergeValsP
  cases ho : toCfg? o with
  | none => rfl
  | some so =>
    have hv : toCfg? v = none := hv.resolve_left (by simp [ho])
    cases v with
    | prim p => cases p with
      | nil => simp [toCfg?] at hv
      | _ => rfl
    | dyn i e => rfl
    | sub d a hd ha => simp [toCfg?] at hv

/-- … except that a nil in B leaves a container of A in place. -/
theorem nil_keeps_container (h : Handling) (d : Dict) (a : List Val) (hd ha : Bool) :
    mergeValsP h (some (.sub d a hd ha)) Val.nilV = .sub d a hd ha := by
  simp [mergeValsP, toCfg?, Val.nilV]

/-- A missing value in A adopts B's value. -/
theorem absent_adopts (h : Handling) (v : Val) : mergeValsP h none v = v := by
  simp [mergeValsP]

/-- the array part of a merged node, by policy -/
theorem arr_policy (h : Handling) (d1 d2 : Dict) (a1 a2 : List Val) (hd1 ha1 hd2 ha2 : Bool) :
    (mergeP h (.sub d1 a1 hd1 ha1) (.sub d2 a2 hd2 ha2)).arr =
      (arrPolicy h a1 a2 (mergeArrP h a1 a2) ha1).1 := by
  rw [mergeP, mergeValsP_sub_sub, Val.arr]

/-- AppendValues: the result list is A's followed by (copies of) B's … -/
theorem append_order (d1 d2 : Dict) (a1 a2 : List Val) (hd1 ha1 hd2 ha2 : Bool) :
    (mergeP .append (.sub d1 a1 hd1 ha1) (.sub d2 a2 hd2 ha2)).arr = a1 ++ cpyA a2 := by
  rw [arr_policy]; rfl

/-- … so its length is the sum of the operands' lengths. -/
theorem append_length (d1 d2 : Dict) (a1 a2 : List Val) (hd1 ha1 hd2 ha2 : Bool) :
    (mergeP .append (.sub d1 a1 hd1 ha1) (.sub d2 a2 hd2 ha2)).arr.length = a1.length + a2.length := by
  rw [append_order]; simp

/-- PrependValues: B's list followed by A's. -/
theorem prepend_order (d1 d2 : Dict) (a1 a2 : List Val) (hd1 ha1 hd2 ha2 : Bool) :
    (mergeP .prepend (.sub d1 a1 hd1 ha1) (.sub d2 a2 hd2 ha2)).arr =
      if a2.isEmpty then a1 else cpyA a2 ++ cpyA a1 := by
  rw [arr_policy, arrPolicy]; split <;> rfl

theorem prepend_length (d1 d2 : Dict) (a1 a2 : List Val) (hd1 ha1 hd2 ha2 : Bool) :
    (mergeP .prepend (.sub d1 a1 hd1 ha1) (.sub d2 a2 hd2 ha2)).arr.length = a1.length + a2.length := by
  rw [prepend_order]
  cases a2 with
  | nil => rfl
  | cons x r => simp [Nat.add_comm]

/-- ReplaceValues / ReplaceArrValues: B's list alone, unless it is empty (replaces nothing). -/
theorem replace_arr (h : Handling) (hh : h = .replace ∨ h = .arrReplace)
    (d1 d2 : Dict) (a1 a2 : List Val) (hd1 ha1 hd2 ha2 : Bool) :
    (mergeP h (.sub d1 a1 hd1 ha1) (.sub d2 a2 hd2 ha2)).arr = if a2.isEmpty then a1 else cpyA a2 := by
  rw [arr_policy]
  rcases hh with rfl | rfl <;> (simp only [arrPolicy]; split <;> rfl)

/-- ReplaceValues: a non-empty dictionary of B replaces A's dictionary at that node. -/
theorem replace_dict (d1 d2 : Dict) (a1 a2 : List Val) (hd1 ha1 hd2 ha2 : Bool)
    (hne : d2.isEmpty = false) :
    (mergeP .replace (.sub d1 a1 hd1 ha1) (.sub d2 a2 hd2 ha2)).dict = mergeDictP .replace [] d2 := by
  rw [mergeP, mergeValsP_sub_sub, Val.dict, hne, if_neg Bool.false_ne_true, if_pos rfl]

/-- the default policy merges lists index-wise; the result is as long as the longer operand -/
theorem mergeArr_length (h : Handling) (a1 a2 : List Val) :
    (mergeArrP h a1 a2).length = max a1.length a2.length := by
  rw [mergeArrP_eq, List.length_append, List.length_append, List.length_zipWith, List.length_drop, cpyA_length,
    List.length_drop]
  rcases Nat.le_total a1.length a2.length with hl | hl
  · rw [Nat.min_eq_left hl, Nat.sub_eq_zero_of_le hl, Nat.add_zero, Nat.add_sub_cancel' hl, Nat.max_eq_right hl]
  · rw [Nat.min_eq_right hl, Nat.sub_eq_zero_of_le hl, Nat.add_zero, Nat.add_sub_cancel' hl, Nat.max_eq_left hl]

/-- index-wise: below both lengths the element is the merge of the two elements -/
theorem mergeArr_index (h : Handling) (a1 a2 : List Val) (i : Nat) (x y : Val)
    (hx : a1[i]? = some x) (hy : a2[i]? = some y) :
    (mergeArrP h a1 a2)[i]? = some (store (some x) y (mergeValsP h (some x) y)) := by
  have hz : (List.zipWith (fun x y => store (some x) y (mergeValsP h (some x) y)) a1 a2)[i]? =
      some (store (some x) y (mergeValsP h (some x) y)) := by rw [List.getElem?_zipWith, hx, hy]
  rw [mergeArrP_eq, List.append_assoc, List.getElem?_append_left (List.getElem?_eq_some_iff.mp hz).1, hz]

/-! ### identity in both directions, and self-merge

On canonical trees (`canonV`: what NewFrom builds from plain data without null settings - sorted
dictionaries, flags agreeing with the contents) equality of trees is `=`. -/

theorem store_self (v : Val) (hc : canonV v = true) : store (some v) v v = v := by
  unfold store
  split
  · rfl
  · exact cpy_canon v hc

mutual
/-- a setting merged into itself is unchanged under the default, merge, replace and list-replace policies (`selfStable`) -/
theorem mergeVals_self (h : Handling) (hs : selfStable h) : ∀ (v : Val), canonV v = true →
    mergeValsP h (some v) v = v
  | .prim p => by
    intro hc
    -- a canonical primitive is not null, so it is no container
    refine nonContainer_right_wins h _ _ (Or.inl ?_)
    cases p with
    | nil => simp [canonV] at hc
    | _ => rfl
  | .dyn _ _ => fun _ => nonContainer_right_wins h _ _ (Or.inl rfl)
  | .sub d a hd ha => by
    intro hc
    simp only [canonV, Bool.and_eq_true, beq_iff_eq] at hc
    obtain ⟨⟨⟨⟨hd1, ha1⟩, hsort⟩, hhd⟩, hha⟩ := hc
    -- every entry and every element is stored back as it is
    have hD : ∀ e ∈ d, store (some e.2) e.2 (mergeValsP h (some e.2) e.2) = e.2 := fun e he => by
      rw [mergeD_self h hs d hd1 e he]; exact store_self e.2 (canonD_mem d hd1 e he)
    have hA : ∀ x ∈ a, store (some x) x (mergeValsP h (some x) x) = x := fun x hx => by
      rw [mergeA_self h hs a ha1 x hx]; exact store_self x (canonA_mem a ha1 x hx)
    rw [mergeValsP_sub_sub, mergeDictP_self h d hsort (cpyD_canon d hd1) hD, ite_self,
      arrPolicy_self h hs a ha (mergeArrP_same h a hA) (cpyA_canon a ha1) hha, hhd]
    cases d <;> rfl
theorem mergeD_self (h : Handling) (hs : selfStable h) : ∀ (d : Dict), canonD d = true →
    ∀ e ∈ d, mergeValsP h (some e.2) e.2 = e.2
  | [] => fun _ e he => by simp at he
  | (k, v) :: r => by
    intro hc e he
    simp only [canonD, Bool.and_eq_true] at hc
    simp only [List.mem_cons] at he
    rcases he with he | he
    · rw [he]; exact mergeVals_self h hs v hc.1
    · exact mergeD_self h hs r hc.2 e he
theorem mergeA_self (h : Handling) (hs : selfStable h) : ∀ (a : List Val), canonA a = true →
    ∀ x ∈ a, mergeValsP h (some x) x = x
  | [] => fun _ x hx => by simp at hx
  | v :: r => by
    intro hc x hx
    simp only [canonA, Bool.and_eq_true] at hc
    simp only [List.mem_cons] at hx
    rcases hx with hx | hx
    · rw [hx]; exact mergeVals_self h hs v hc.1
    · exact mergeA_self h hs r hc.2 x hx
end

/-- **Merging a config into itself changes nothing** under the default, the merge and the two replace policies, for
every canonical tree of any shape and depth. -/
theorem merge_self (h : Handling) (hs : selfStable h) (A : Val) (hA : A.isSub = true)
    (hc : canonV A = true) : mergeP h A A = A := by
  cases A with
  | prim p => simp [Val.isSub] at hA
  | dyn i e => simp [Val.isSub] at hA
  | sub d a hd ha => exact mergeVals_self h hs _ hc

/-- under append / prepend a self-merge doubles the list (the statement's "length is the sum") -/
theorem merge_self_append_length (d : Dict) (a : List Val) (hd ha : Bool) :
    (mergeP .append (.sub d a hd ha) (.sub d a hd ha)).arr.length = a.length + a.length ∧
    (mergeP .prepend (.sub d a hd ha) (.sub d a hd ha)).arr.length = a.length + a.length := by
  constructor
  · exact append_length d d a a hd ha hd ha
  · rw [prepend_length]

/-- **Left identity**: merging B into the empty config gives B, under every policy. -/
theorem merge_empty_left (h : Handling) (d : Dict) (a : List Val) (hd ha : Bool)
    (hc : canonV (.sub d a hd ha) = true) (hfl : a.isEmpty = true → ha = false) :
    mergeP h Val.empty (.sub d a hd ha) = .sub d a hd ha := by
  have hc' := hc
  simp only [canonV, Bool.and_eq_true, Bool.or_eq_true] at hc'
  -- the list flag of a canonical tree that is also unset on an empty list says exactly "there are elements"
  have hha : (!a.isEmpty) = ha := by
    cases hae : a.isEmpty
    · exact (hc'.2.resolve_right (by rw [hae]; exact Bool.false_ne_true)).symm
    · exact (hfl hae).symm
  rw [mergeP_empty_left_sorted h d a hd ha hc'.1.1.2, hha, cpy_canon _ hc]

/-- non-vacuity: a two-level tree with a list is canonical (the hypothesis of `mergeVals_self`, `merge_self`, `merge_empty_left`) -/
example : canonV (.sub [("a", .sub [("x", .prim (.int 1))] [] true false), ("b", .prim (.str "s"))]
    [.prim (.bool true), .sub [] [.prim (.int 2)] false true] true true) = true := by decide +kernel
/-- a null setting is outside the canonical trees: merged into itself it becomes an empty config
(`cfgNil.toConfig`), which every view reads as null again -/
example : mergeValsP .dflt (some Val.nilV) Val.nilV = Val.empty := by
  unfold mergeValsP; simp [toCfg?, Val.nilV]

/-! the other hypotheses used above have instances: distinct keys, a non-container, a container -/
example : (dkeysOf [("a", Val.nilV), ("b", Val.nilV)]).Nodup := by decide +kernel
example : toCfg? (.prim (.int 1)) = none := rfl
example : (Val.sub [] [.prim (.int 1)] false true).isSub = true := rfl

end Ucfg.C01
