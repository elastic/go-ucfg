import Ucfg.Props.C10
/-!
  C11 — reads are pure.

  In the model a read is a function *of* the tree that returns no tree: purity is a matter of types, and the theorems
  below only make explicit what that means for the two places where the Go code could plausibly write while reading.
  * a config used as a merge source is only copied from (`merge_source_only_read` for one copy,
    `whole_merge_only_reads_source` for Merge as a whole, from C10's frame theorem);
  * evaluating references threads the per-call cache and nothing else: the `EM` monad's state is `Cache`, the tree is
    an argument (opts.go: "nothing is cached on the value"), and C08's `cache_only_primitives` shows that what the
    cache holds are primitives, never a piece of the shared tree.
  The statement about goroutines is about the Go memory model, which no functional model can exhibit: it is decided by
  running the real readers concurrently under the race detector (kind `concurrent`) and by comparing the fingerprint
  of every config before and after every read (kind `forest`).  C11 is therefore claimed as partial.
-/
namespace Ucfg.C11
open Ucfg.Forest

/-- using a config as a merge source reads it: every node it consists of is identical afterwards -/
theorem merge_source_only_read (n : Nat) (h h' : Heap) (src id' : Id) (p : Option Id) (f : String)
    (he : Forest.cpy n h src p f = some (h', id')) : ∀ (i : Nat) (nd : Node), h[i]? = some nd → h'[i]? = some nd :=
  Ucfg.C10.copy_leaves_every_node_untouched n h h' src id' p f he

/-- the same for Merge as a whole (Model/Forest.lean `mergeH`, every list policy): when the destination lies outside a
set `S` of nodes that nothing else points into - the source's tree - every node of `S` is identical afterwards.  A
config can be the source of any number of merges, NewFrom calls and Unpacks while others read it. -/
theorem whole_merge_only_reads_source (S : Id → Prop) (n cf : Nat) (pol : ArrPol) (h h' : Heap) (to frm : Id)
    (hS : ∀ i : Nat, S i → i < h.length) (hsep : Sep S h) (hto : ¬ S to)
    (he : mergeH n cf pol h to frm = some h') : ∀ i, S i → h'[i]? = h[i]? :=
  (Ucfg.C10.merge_leaves_separated_untouched S n cf pol h h' to frm hS hsep hto he).1

/-- NewFrom of a value that embeds configs reads them: every node that existed is identical afterwards (C10's
`newFrom_leaves_everything_untouched`, restated here for the readers' side) -/
theorem newFrom_only_reads_embedded (n cf : Nat) (pol : ArrPol) (h h' : Heap) (src : Src) (root : Id)
    (he : newFromH n cf pol h src = some (h', root)) : ∀ (i : Nat) (nd : Node), h[i]? = some nd → h'[i]? = some nd :=
  fun i _ hi => hi ▸ Ucfg.C10.newFrom_leaves_everything_untouched n cf pol h h' src root he i (lt_of_getElem?_some hi)

/-- parent links of existing nodes stay inside the heap -/
def Closed (h : Heap) : Prop := ∀ (i : Nat) (nd : Node) (p : Id), h[i]? = some nd → nd.parent = some p → p < h.length

/-- Path() of any existing node is the same in every extension of the heap: creating configs from a config (Merge with
it as the source, NewFrom embedding it, Child+Unpack building temporaries) does not change what a concurrent or later
Path() returns -/
theorem path_same_after_allocation (h t : Heap) (hc : Closed h) :
    ∀ (fuel : Nat) (id : Id), id < h.length → storedPath fuel (h ++ t) id = storedPath fuel h id := by
  intro fuel
  induction fuel with
  | zero => intro id _; rfl
  | succ n ih =>
    intro id hid
    simp only [storedPath]
    rw [List.getElem?_append_left hid]
    cases hn : h[id]? with
    | none => rfl
    | some nd =>
      simp only
      cases hp : nd.parent with
      | none => rfl
      | some p =>
        simp only
        rw [ih p (hc id nd p hn hp)]

/-- the same for Child(): looking a name or an index up in an existing node -/
theorem child_same_after_allocation (h t : Heap) (id : Id) (hid : id < h.length) (k : String) (i : Nat) :
    childNamed (h ++ t) id k = childNamed h id k ∧ childAt (h ++ t) id i = childAt h id i := by
  unfold childNamed childAt getSub
  rw [List.getElem?_append_left hid]
  exact ⟨rfl, rfl⟩

/-- together with `cpy_appends`: while a config is used as a merge source, Path() of every existing node is unchanged -/
theorem path_same_while_merge_source (n : Nat) (h h' : Heap) (src id' : Id) (p : Option Id) (f : String)
    (he : Forest.cpy n h src p f = some (h', id')) (hc : Closed h) (fuel : Nat) (id : Id) (hid : id < h.length) :
    storedPath fuel h' id = storedPath fuel h id := by
  obtain ⟨⟨t, rfl⟩, _⟩ := cpy_appends he
  exact path_same_after_allocation h t hc fuel id hid

/-- non-vacuity: a closed two-node heap -/
example : Closed [⟨none, "", .sub [("a", 1)] []⟩, ⟨some 0, "a", .prim "int" "7"⟩] := by
  intro i nd p hi hp
  match i, hi with
  | 0, hi => simp at hi; subst hi; simp at hp
  | 1, hi => simp at hi; subst hi; simp at hp; subst hp; decide
  | n+2, hi => simp at hi

end Ucfg.C11
