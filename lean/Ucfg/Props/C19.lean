import Ucfg.Model.Flag
/-
  C19 — repeated flags accumulate like sequential merges with the flag's options.
-/
namespace Ucfg.C19
open Ucfg

/-! Both flags are the collector `collect` behind a loader; what is said of Set calls is said of `collect` first. -/

theorem collectorAdd_of_err (o : Opts) (c : Collector) (e : Err) (r : Outcome (Option Val)) (h : c.err = some e) :
    collectorAdd o c r = c := by
  simp only [collectorAdd, h]

theorem collect_cons (o : Opts) (c : Collector) (r : Outcome (Option Val)) (rs : List (Outcome (Option Val))) :
    collect o c (r :: rs) = collect o (collectorAdd o c r) rs := rfl

theorem collect_sticky (o : Opts) (c : Collector) (e : Err) (rs : List (Outcome (Option Val))) (h : c.err = some e) :
    collect o c rs = c := by
  induction rs with
  | nil => rfl
  | cons r rest ih => rw [collect_cons, collectorAdd_of_err o c e r h, ih]

theorem flagSets_eq_collect (std : Stdlib) (o : Opts) (ab : Bool) (c : Collector) (args : List String) :
    flagSets std o ab c args = collect o c (args.map (flagLoad std o ab)) := by
  simp only [flagSets, collect, List.foldl_map]
  rfl

theorem fileSets_eq_collect (o : Opts) (c : Collector) (args : List FileArg) :
    fileSets o c args = collect o c (args.map (fileLoad o)) := by
  simp only [fileSets, collect, List.foldl_map]

theorem sets_append (std : Stdlib) (o : Opts) (ab : Bool) (c : Collector) (xs ys : List String) :
    flagSets std o ab c (xs ++ ys) = flagSets std o ab (flagSets std o ab c xs) ys :=
  List.foldl_append

/-- after the first failing argument the collector keeps reporting that first error and its
config no longer changes, whatever follows -/
theorem error_sticky (std : Stdlib) (o : Opts) (ab : Bool) (c : Collector) (e : Err) (later : List String)
    (h : c.err = some e) : flagSets std o ab c later = c := by
  rw [flagSets_eq_collect, collect_sticky o c e _ h]

/-- … in particular arguments after a failing one cannot repair or change the outcome -/
theorem first_error_wins (std : Stdlib) (o : Opts) (ab : Bool) (c : Collector) (xs later : List String) (e : Err)
    (h : (flagSets std o ab c xs).err = some e) :
    flagSets std o ab c (xs ++ later) = flagSets std o ab c xs := by
  rw [sets_append]
  exact error_sticky std o ab _ e later h

/-- a key with an empty value is ignored -/
theorem empty_value_ignored (std : Stdlib) (o : Opts) (ab : Bool) (c : Collector) (arg key : String)
    (h : splitEq arg = (key, some "")) : flagSet std o ab c arg = c := by
  simp only [flagSet, flagLoad, h]
  cases hc : c.err with
  | none => simp [collectorAdd, hc]
  | some e => exact collectorAdd_of_err o c e _ hc

/-- while no argument has failed, every accepted argument is merged into the accumulated config
with the flag's own options — the fold the statement describes -/
theorem set_is_merge (std : Stdlib) (o : Opts) (ab : Bool) (c : Collector) (arg : String) (cfg : Val)
    (hc : c.err = none) (hl : flagLoad std o ab arg = .ok (some cfg)) :
    flagSet std o ab c arg = { c with config := mergeCfg o c.config cfg } := by
  simp only [flagSet, collectorAdd, hc, hl]

/-- a bare key means true -/
theorem bare_key_true (std : Stdlib) (o : Opts) (arg : String) (h : splitEq arg = (arg, none)) :
    flagLoad std o true arg = (newFrom o (.map [(arg, .bool true)])).bind (fun c => .ok (some c)) := by
  simp [flagLoad, h]

/-- what the statement says the flag holds: the configs of the arguments before the first failing one, merged in order
with the flag's options, and that first failure -/
def specRun (o : Opts) : Val → List (Outcome (Option Val)) → Val × Option Err
  | cfg, [] => (cfg, none)
  | cfg, .ok none :: r => specRun o cfg r
  | cfg, .ok (some x) :: r => specRun o (mergeCfg o cfg x) r
  | cfg, .err e :: _ => (cfg, some e)
  | cfg, .panic s :: _ => (cfg, some { reason := .other, msg := some s })
  | cfg, .fuel :: _ => (cfg, some { reason := .other, msg := some "fuel" })

/-- any sequence of Set calls, any loader: the collector holds exactly what the statement describes -/
theorem collect_eq_spec (o : Opts) (rs : List (Outcome (Option Val))) :
    ∀ (c : Collector), c.err = none →
      collect o c rs = { config := (specRun o c.config rs).1, err := (specRun o c.config rs).2 } := by
  induction rs with
  | nil => intro c hc; cases c; cases hc; rfl
  | cons r rest ih =>
    intro c hc
    rw [collect_cons]
    simp only [collectorAdd, hc]
    -- a result that is merged or ignored leaves the collector without error; any other sets it for good
    match r with
    | .ok none => exact ih c hc
    | .ok (some x) => exact ih _ rfl
    | .err e => exact collect_sticky o _ e rest rfl
    | .panic s => exact collect_sticky o _ _ rest rfl
    | .fuel => exact collect_sticky o _ _ rest rfl

/-- -flag key=value: after any sequence of arguments the flag holds the fold of the statement -/
theorem flag_is_fold_of_merges (std : Stdlib) (o : Opts) (ab : Bool) (args : List String) :
    flagSets std o ab { config := Val.empty, err := none } args =
      { config := (specRun o Val.empty (args.map (flagLoad std o ab))).1,
        err := (specRun o Val.empty (args.map (flagLoad std o ab))).2 } := by
  rw [flagSets_eq_collect]; exact collect_eq_spec o _ _ rfl

/-- file flags: the same, with the files' configs created by the flag's options -/
theorem fileflag_is_fold_of_merges (o : Opts) (args : List FileArg) :
    fileSets o { config := Val.empty, err := none } args =
      { config := (specRun o Val.empty (args.map (fileLoad o))).1, err := (specRun o Val.empty (args.map (fileLoad o))).2 } := by
  rw [fileSets_eq_collect]; exact collect_eq_spec o _ _ rfl

/-- a file without a loader, a missing or a malformed file is recorded: it is the error from then on and nothing after it
is merged -/
theorem file_failure_recorded (o : Opts) (c : Collector) (later : List FileArg) (hc : c.err = none) :
    ∃ e, (fileSets o c (.fail :: later)).err = some e ∧ (fileSets o c (.fail :: later)).config = c.config := by
  refine ⟨{ reason := .other, typed := false }, ?_⟩
  have h := collect_eq_spec o ((FileArg.fail :: later).map (fileLoad o)) c hc
  rw [fileSets_eq_collect, h]
  exact ⟨rfl, rfl⟩

example : splitEq "a=" = ("a", some "") := by decide +kernel
example : splitEq "ab" = ("ab", none) := by decide +kernel
example : splitEq "a=b=c" = ("a", some "b=c") := by decide +kernel

end Ucfg.C19
