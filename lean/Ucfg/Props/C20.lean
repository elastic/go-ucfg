import Ucfg.Spec.C20
import Ucfg.Model.Normalize
import Ucfg.Lemmas.Path
/-
  C20 — numeric path segments index lists only within [0, MaxIdx].

  The theorems are stated against `Extracted.guard_parseField`, the Lean term the
  extractor regenerates from path.go on every run: if the condition in the source
  changes (e.g. the `idx >= 0` conjunct disappears) the proofs below stop checking.
-/
namespace Ucfg.C20
open Ucfg

/-- A segment becomes an index exactly when numeric keys are off and it is an integer
literal (in any Go syntax) between 0 and MaxIdx. -/
theorem parseField_index_iff (s : String) (m : Int) (enk : Bool) (i : Int) :
    parseField s m enk = .idx i ↔ (enk = false ∧ IntLit.parseIntS s = some i ∧ 0 ≤ i ∧ i ≤ m) := by
  unfold parseField
  cases enk with
  | true => simp
  | false =>
    cases IntLit.parseIntS s with
    | none => simp
    | some j =>
      simp only [Extracted.guard_parseField, Bool.and_eq_true, decide_eq_true_eq, ge_iff_le, Bool.false_eq_true,
        if_false, true_and, Option.some.injEq]
      split
      · rename_i hj
        exact ⟨fun e => by cases e; exact ⟨rfl, hj⟩, fun ⟨e, _⟩ => by rw [e]⟩
      · rename_i hj
        exact ⟨(fun e => nomatch e), fun ⟨e, h'⟩ => absurd (e ▸ h') hj⟩

/-- The model's classification agrees with the specification's, for every key. -/
theorem parseField_eq_spec (s : String) (m : Int) (enk : Bool) :
    parseField s m enk =
      (match Spec.C20.isIndex s m enk with
       | some n => Field.idx n
       | none => Field.named s) := by
  unfold parseField Spec.C20.isIndex
  cases enk with
  | true => rfl
  | false =>
    cases IntLit.parseIntS s with
    | none => rfl
    | some j =>
      simp only [Extracted.guard_parseField, Bool.and_eq_true, decide_eq_true_eq, ge_iff_le, Bool.false_eq_true, if_false]
      split
      · rename_i hj; simp only [Int.toNat_of_nonneg hj.1]
      · rfl

/-- A negative literal is never an index, whatever MaxIdx is. -/
theorem negative_is_name (s : String) (m : Int) (enk : Bool) (i : Int)
    (hp : IntLit.parseIntS s = some i) (hneg : i < 0) : parseField s m enk = .named s := by
  rw [parseField_eq_spec]
  cases enk <;> simp [Spec.C20.isIndex, hp, Int.not_le.mpr hneg]

/-- With EnableNumKeys a single-segment numeric key is a name. -/
theorem numKeys_is_name (s : String) (m : Int) : parseField s m true = .named s := by
  simp [parseField]

/-- A key with more than one segment is parsed with numeric keys disabled, whatever the option says. -/
theorem multi_segment_disables_numkeys (s sep : String) (m : Int) (enk esc : Bool)
    (hsep : (sep == "") = false) (hesc : (esc && escapedPath s) = false)
    (hlen : (splitOn s sep).length > 1) :
    parsePath s sep m enk esc = (splitOn s sep).map (fun e => parseField e m false) := by
  unfold parsePath
  simp [hsep, hesc, hlen]

/-- fields.setAt grows a list to exactly max(len, idx+1) slots. -/
theorem asetNat_length (a : List Val) (n : Nat) (v : Val) :
    (asetNat a n v).length = max a.length (n + 1) := length_asetNat a n v

/-- the regenerated guard of idxField.SetValue rejects exactly the indices outside [0, MaxIdx] -/
theorem idxSet_reject_iff (i m : Int) :
    Extracted.guard_idxSet_reject i m = true ↔ (i < 0 ∨ m < i) := by
  simp [Extracted.guard_idxSet_reject]

/-- No single write makes a list grow beyond MaxIdx+1 entries (or its previous length). -/
theorem growth_bound (o : Opts) (f : Field) (d : Dict) (a : List Val) (hd ha : Bool) (v t : Val)
    (hmax : 0 ≤ o.maxIdx)
    (h : fieldSet o f (.sub d a hd ha) v = .ok t) :
    t.arr.length ≤ max a.length (o.maxIdx.toNat + 1) := by
  cases f with
  | named n => cases h; exact Nat.le_max_left ..
  | idx i =>
    obtain ⟨⟨_, hi, _⟩, rfl⟩ := fieldSet_idx_sub_eq_ok.mp h
    rw [Val.arr, length_asetNat]
    exact Nat.max_le.mpr ⟨Nat.le_max_left .., Nat.le_trans (Nat.succ_le_succ (Int.toNat_le_toNat hi)) (Nat.le_max_right ..)⟩

/-- The same bound for every intermediate node cfgPath.SetValue builds for a new key. -/
theorem buildChain_top_bound (o : Opts) (fs : List Field) (f : Field) (v t : Val)
    (hmax : 0 ≤ o.maxIdx)
    (h : buildChain o (f :: fs) v = .ok t) : t.arr.length ≤ o.maxIdx.toNat + 1 := by
  obtain ⟨inner, _, hs⟩ := buildChain_cons_eq_ok h
  simpa using growth_bound o f [] [] false false inner t hmax hs

/-! non-vacuity: concrete instances of the hypotheses -/
example : parseField "7" 1024 false = .idx 7 := by decide +kernel
example : parseField "0x10" 1024 false = .idx 16 := by decide +kernel
example : parseField "-1" 1024 false = .named "-1" := by decide +kernel
example : parseField "1025" 1024 false = .named "1025" := by decide +kernel
example : parseField "7" 1024 true = .named "7" := by decide +kernel
example : (fieldSet {} (.idx 3) Val.empty (.prim (.int 1))).isOk = true := by decide +kernel

end Ucfg.C20
