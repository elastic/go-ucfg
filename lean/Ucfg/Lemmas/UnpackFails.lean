import Ucfg.Model.Unpack
import Ucfg.Lemmas.Outcome
import Ucfg.Lemmas.Path
/-
  How the typed unpacker fails.  The eight functions of `Model/Unpack.lean` raise `ucfg.Error`s of their own and hand on
  the failures of four calls: `accessField` and the conversion `reifyPrim`, which fail with `ucfg.Error`s only
  (`accessField_fails`, `reifyPrim_fails`), the lookup `pathGet` (which also fails with `ucfg.Error`s only, along a path
  that is not empty: `pathGet_fails`) and - for `interface{}` slots only - the generic `reifyP`.
  So whatever `S` allows of `ucfg.Error`s and of `reifyP` (`Leaves`) it allows of `unpack` (`unpack_fails`).
  "Unpack never panics" (C07) and "Unpack returns ucfg.Errors only" (C14) are instances.  The steps follow the code of
  the model branch by branch (`unfold f; split`): each branch is closed by the claim, one fuel level below, for the call
  it makes.
-/
namespace Ucfg

mutual
/-- no `interface{}` anywhere in the type: such slots are filled by the generic `reifyP`, whose failures the walk covers
only under `G` (`Leaves.generic`) -/
def Ty.noIface : Ty → Bool
  | .iface => false
  | .ptr t => t.noIface
  | .slice t => t.noIface
  | .array _ t => t.noIface
  | .map t => t.noIface
  | .strct fs => C14.noIfaceFields fs
  | _ => true
/-- in namespace `C14` because `Ty.noIface`, with which `C14.unpack_error_typed` is stated, unfolds to it under that name -/
def C14.noIfaceFields : List (String × String × String × Ty) → Bool
  | [] => true
  | (_, _, _, t) :: r => t.noIface && C14.noIfaceFields r
end

open Outcome

section
variable {std : Stdlib} {S : FailSpec}

theorem accessField_fails (hS : S.Typed) (o : Opts) (g tag vtag : String) : (accessField o g tag vtag).Fails S := by
  unfold accessField
  generalize parseTags tag = pt
  refine Fails.ite (fun _ => trivial) fun _ => Fails.ite (fun _ => trivial) fun _ => ?_
  cases parseValidatorTags vtag with
  | none => exact hS _ rfl
  | some vs => exact trivial

/-- the branch on a validation verdict, which the unpacker has in a dozen places: a refusal is a `ucfg.Error` -/
theorem validated_fails {α : Type} (hS : S.Typed) {o : Option VErr} {k : Outcome α} (hk : k.Fails S) :
    (match o with
      | some e => raiseValidation e
      | none => k).Fails S := by
  cases o with
  | some e => exact hS _ rfl
  | none => exact hk

theorem finishArray_fails (hS : S.Typed) {fo : FOpts} {v : GoVal} : (finishArray std fo v).Fails S :=
  validated_fails hS trivial

theorem guard_fails {α : Type} {c : Prop} [Decidable c] {r : Reason} {y : Outcome α} (hy : y.Fails errOnly) :
    (if c then raiseRaw r else y).Fails errOnly :=
  Fails.ite (fun _ => trivial) fun _ => hy

theorem Prim.toBool_fails (p : Prim) : p.toBool.Fails errOnly := by
  cases p with
  | str s => dsimp only [Prim.toBool]; cases parseBool s <;> exact trivial
  | _ => exact trivial

theorem Prim.toInt_fails (p : Prim) : p.toInt.Fails errOnly := by
  cases p with
  | uint u | float b => exact guard_fails trivial
  | str s => dsimp only [Prim.toInt]; cases IntLit.parseIntS s <;> exact trivial
  | _ => exact trivial

theorem Prim.toUint_fails (p : Prim) : p.toUint.Fails errOnly := by
  cases p with
  | int i => exact guard_fails trivial
  | float b => exact guard_fails (guard_fails trivial)
  | str s => dsimp only [Prim.toUint]; cases IntLit.parseUintS s <;> exact trivial
  | _ => exact trivial

theorem Prim.toFloat_fails (p : Prim) : (p.toFloat std).Fails errOnly := by
  cases p with
  | str s => dsimp only [Prim.toFloat]; cases std.parseFloat s <;> exact trivial
  | _ => exact trivial

theorem reifyDuration_fails (p : Prim) : (reifyDuration std p).Fails errOnly := by
  cases p with
  | int i | uint u | float b => exact guard_fails trivial
  | _ => dsimp only [reifyDuration]; cases std.parseDuration _ <;> exact trivial

/-- the conversions do not panic, and `wrap` (raiseConversion / raiseInvalidDuration) makes their error a `ucfg.Error` -/
theorem reifyPrim_fails (hS : S.Typed) (k : Kind) (p : Prim) : (reifyPrim std k p).Fails S := by
  have w {α : Type} {x : Outcome α} (hx : x.Fails errOnly) : (reifyPrim.wrap x).Fails S := by
    cases x with
    | err e => exact hS _ rfl
    | panic s => exact hx.elim
    | _ => exact trivial
  cases k with
  | string => exact w (Fails.bind (by cases p <;> exact trivial) fun _ => trivial)
  | duration => exact w ((reifyDuration_fails p).bind fun _ => trivial)
  | int bits => exact w (p.toInt_fails.bind fun _ => guard_fails trivial)
  | uint bits => exact w (p.toUint_fails.bind fun _ => guard_fails trivial)
  | float bits =>
    exact w (p.toFloat_fails.bind fun _ => Fails.ite (fun _ => guard_fails trivial) fun _ => trivial)
  | bool => exact w (p.toBool_fails.bind fun _ => trivial)

theorem reifyPrimitiveT_fails (hS : S.Typed) (fo : FOpts) (ty : Ty) (v : Val) : (reifyPrimitiveT std fo ty v).Fails S := by
  refine Fails.ite (fun _ => ?_) fun _ => ?_
  · -- a null setting: the zero value, validated only where it has elements
    cases ty with
    | array n t => exact validated_fails hS trivial
    | _ => exact trivial
  · cases ty with
    | prim k =>
      cases v with
      | prim p =>
        -- the conversion's failures are handed on unchanged
        dsimp only
        cases hr : reifyPrim std k p with
        | ok s => exact validated_fails hS trivial
        | err e => exact (reifyPrim_fails hS k p).of_err hr
        | panic m => exact (reifyPrim_fails hS k p).of_panic hr
        | fuel => exact trivial
      | _ => exact hS _ rfl
    | regexp =>
      cases v with
      | prim p =>
        dsimp only
        cases p.toStr std with
        | ok s => exact Fails.ite (fun _ => validated_fails hS trivial) fun _ => hS _ rfl
        | _ => exact hS _ rfl
      | _ => exact hS _ rfl
    | _ => exact hS _ rfl

/-- What the walk assumes of the calls the unpacker hands failures on from.  `G` stands for "the generic `reifyP` fails
within `S` as well": target types with `interface{}` are covered only under `G`. -/
structure Leaves (S : FailSpec) (G : Prop) : Prop where
  typed : S.Typed
  generic : G → ∀ v, (reifyP v).Fails S

/-- the claims of the induction over the fuel, one per function -/
structure FailClaims (std : Stdlib) (S : FailSpec) (G : Prop) (n : Nat) : Prop where
  merge : ∀ {fo ty old v}, ty.noIface = true ∨ G → (mergeValue std n fo ty old v).Fails S
  reify : ∀ {fo ty v}, ty.noIface = true ∨ G → (reifyValue std n fo ty v).Fails S
  strct : ∀ {o fs xs cfg}, C14.noIfaceFields fs = true ∨ G → (reifyStructT std n o fs xs cfg).Fails S
  getf : ∀ {fo t x cfg name}, t.noIface = true ∨ G → (getField' std n fo t x cfg name).Fails S
  slice : ∀ {fo t old v}, t.noIface = true ∨ G → (sliceMerge std n fo t old v).Fails S
  arr : ∀ {fo t start xs vs}, t.noIface = true ∨ G → (doArray std n fo t start xs vs).Fails S
  mapc : ∀ {o vs t m0 sub}, t.noIface = true ∨ G → (reifyMapT std n o vs t m0 sub).Fails S
  ents : ∀ {o t m d}, t.noIface = true ∨ G → (mapEntries std n o t m d).Fails S

variable {G : Prop} (L : Leaves S G) {n : Nat} (IH : FailClaims std S G n)
include L IH

theorem mergeValue_fails_step {fo ty old v} (ht : ty.noIface = true ∨ G) : (mergeValue std (n+1) fo ty old v).Fails S := by
  unfold mergeValue
  -- one bullet per alternative of `match ty, old`, in the order of the model
  split
  · exact IH.reify ht
  · exact IH.reify ht
  · exact Fails.bind (IH.merge ht) fun _ => trivial
  · -- an interface that holds data: merged as a map, a list or a primitive, by what it holds
    have g : G := ht.resolve_left Bool.false_ne_true
    split
    · exact Fails.bind (IH.merge (.inr g)) fun _ => trivial
    · exact Fails.bind (IH.merge (.inr g)) fun _ => trivial
    · split
      · exact Fails.bind (L.generic g v) fun _ => trivial
      · refine Fails.bind (reifyPrimitiveT_fails L.typed ..) fun _ => ?_
        split <;> exact trivial
  · split
    · exact L.typed _ rfl
    · exact IH.mapc ht
  · split
    · exact L.typed _ rfl
    · exact Fails.bind (IH.strct ht) fun _ => trivial
  · dsimp only
    split
    · exact L.typed _ rfl
    · exact Fails.bind (IH.arr ht) fun _ => finishArray_fails L.typed
  · exact IH.slice ht
  · split
    · exact L.typed _ rfl
    · exact trivial
  · exact L.typed _ rfl
  · split <;> exact L.typed _ rfl
  · exact reifyPrimitiveT_fails L.typed ..

theorem reifyValue_fails_step {fo ty v} (ht : ty.noIface = true ∨ G) : (reifyValue std (n+1) fo ty v).Fails S := by
  unfold reifyValue
  split
  · refine Fails.bind (L.generic (ht.resolve_left Bool.false_ne_true) v) fun _ => ?_
    split
    · exact L.typed _ rfl
    · exact trivial
  · exact Fails.bind (IH.reify ht) fun _ => trivial
  · split
    · exact L.typed _ rfl
    · exact Fails.bind (IH.strct ht) fun _ => trivial
  · split
    · exact L.typed _ rfl
    · exact IH.mapc ht
  · exact IH.slice ht
  · split
    · exact reifyPrimitiveT_fails L.typed ..
    · dsimp only
      split
      · exact L.typed _ rfl
      · exact Fails.bind (IH.arr ht) fun _ => finishArray_fails L.typed
  · split
    · exact trivial
    · exact reifyPrimitiveT_fails L.typed ..
  · split
    · exact L.typed _ rfl
    · exact trivial
  · split <;> exact L.typed _ rfl
  · exact reifyPrimitiveT_fails L.typed ..

theorem reifyStructT_fails_step {o fs xs cfg} (hf : C14.noIfaceFields fs = true ∨ G) :
    (reifyStructT std (n+1) o fs xs cfg).Fails S := by
  cases fs with
  | nil => exact trivial
  | cons f fr =>
    cases xs with
    | nil => exact trivial
    | cons x xr =>
      obtain ⟨g, tag, vtag, t⟩ := f
      have hf' : (t.noIface = true ∧ C14.noIfaceFields fr = true) ∨ G := hf.imp_left Bool.and_eq_true_iff.mp
      have ht : t.noIface = true ∨ G := hf'.imp_left And.left
      have rest {y : GoVal} : Fails S (reifyStructT std n o fr xr cfg >>= fun rest => ok (y :: rest)) :=
        Fails.bind (IH.strct (hf'.imp_left And.right)) fun _ => trivial
      refine Fails.bind (accessField_fails L.typed ..) fun fio => ?_
      cases fio with
      | none => exact rest
      | some fi =>
        refine Fails.bind (Fails.ite (fun _ => ?_) fun _ => IH.getf ht) fun _ => rest
        refine Fails.seq (by split <;> first | exact trivial | exact L.typed _ rfl) ?_
        split
        -- the alternatives of the model's `match t`, in its order (the counts below are theirs)
        -- struct, map and pointers to them: merged, then the validators declared on the inlined field itself
        iterate 4 exact Fails.bind (IH.merge ht) fun _ => validated_fails L.typed trivial
        -- slice, array: merged under the field's options
        iterate 2 exact IH.merge ht
        -- Config, pointer to Config: the whole configuration is merged in, if the field holds one
        iterate 2 split <;> first | exact trivial | exact L.typed _ rfl
        -- nothing else can be inlined
        exact L.typed _ rfl

theorem getField'_fails_step {fo t x cfg name} (ht : t.noIface = true ∨ G) :
    (getField' std (n+1) fo t x cfg name).Fails S := by
  unfold getField'
  extract_lets vR
  have hv : vR.Fails S := by
    have hp := pathGet_fails L.typed (parsePathOpts name fo.opts) cfg (parsePath_ne_nil _ _ _ _ _)
    dsimp only [vR]
    split
    · exact trivial
    · split
      · exact trivial
      · exact hp.of_err ‹_›
    · exact hp.of_panic ‹_›
    · exact trivial
  clear_value vR
  split
  · exact hv
  · exact hv
  · exact trivial
  · split
    · split
      · exact IH.merge ht
      · exact validated_fails L.typed trivial
    · split
      · refine Fails.bind (IH.merge ht) fun _ => ?_
        split <;> exact trivial
      · exact trivial

theorem sliceMerge_fails_step {fo t old v} (ht : t.noIface = true ∨ G) : (sliceMerge std (n+1) fo t old v).Fails S := by
  have fin {start tmp arr} {c : List GoVal → GoVal} :
      Fails S (doArray std n fo t start tmp arr >>= fun xs => finishArray std fo (c xs)) :=
    Fails.bind (IH.arr ht) fun _ => finishArray_fails L.typed
  unfold sliceMerge
  extract_lets arr h l
  split
  · exact fin
  · extract_lets oln
    split
    exact fin

theorem doArray_fails_step {fo t start xs vs} (ht : t.noIface = true ∨ G) :
    (doArray std (n+1) fo t start xs vs).Fails S := by
  have kept {x xr st arr} : Fails S (match recValidate std fo.opts t [] x with
      | some e => raiseValidation e
      | none => doArray std n fo t st xr arr >>= fun rest => ok (x :: rest)) :=
    validated_fails L.typed (Fails.bind (IH.arr ht) fun _ => trivial)
  cases xs with
  | nil => exact trivial
  | cons x xr =>
    cases start with
    | succ st => exact kept
    | zero =>
      cases vs with
      | nil => exact kept
      | cons v vr =>
        exact Fails.bind (IH.merge ht) fun _ => Fails.bind (IH.arr ht) fun _ => trivial

theorem reifyMapT_fails_step {o vs t m0 sub} (ht : t.noIface = true ∨ G) : (reifyMapT std (n+1) o vs t m0 sub).Fails S := by
  unfold reifyMapT
  extract_lets m
  split
  · exact validated_fails L.typed trivial
  · exact Fails.bind (IH.ents ht) fun _ => validated_fails L.typed (validated_fails L.typed trivial)

omit L in
theorem mapEntries_fails_step {o t m d} (ht : t.noIface = true ∨ G) : (mapEntries std (n+1) o t m d).Fails S := by
  cases d with
  | nil => exact trivial
  | cons kv r =>
    refine Fails.bind ?_ fun _ => IH.ents ht
    split
    · exact IH.reify ht
    · exact IH.merge ht

omit IH in
theorem failClaims : ∀ n, FailClaims std S G n
  | 0 => by constructor <;> intros <;> exact trivial
  | n + 1 =>
    have IH := failClaims n
    ⟨mergeValue_fails_step L IH, reifyValue_fails_step L IH, reifyStructT_fails_step L IH, getField'_fails_step L IH,
      sliceMerge_fails_step L IH, doArray_fails_step L IH, reifyMapT_fails_step L IH, mapEntries_fails_step IH⟩

omit IH in
/-- `Unpack` fails only as `S` allows, for every target type without `interface{}` - and for every target type
whatsoever if the generic `reifyP` fails only as `S` allows -/
theorem unpack_fails (o : Opts) : ∀ (ty : Ty) (old : GoVal) (cfg : Val), ty.noIface = true ∨ G →
    (unpack std o ty old cfg).Fails S
  | .ptr t => by
    intro old cfg ht
    unfold unpack
    split
    · exact Fails.bind (unpack_fails o t _ cfg ht) fun _ => trivial
    · -- a nil pointer: what it points to is allocated and filled, a slice or an array by reifyMergeValue
      split
      -- by the model's `match t.base`, in its order: struct, map, Config behind the pointers
      iterate 3 exact Fails.bind (unpack_fails o t _ cfg ht) fun _ => trivial
      -- slice, array
      iterate 2 exact (failClaims L unpackFuel).merge ht
      -- nothing else is allocated
      exact L.typed _ rfl
    · exact L.typed _ rfl
  | .map t => by
    intro old cfg ht
    unfold unpack
    split
    · exact (failClaims L unpackFuel).mapc ht
    · exact L.typed _ rfl
  | .strct fs => by
    intro old cfg ht
    unfold unpack
    split
    · exact Fails.bind ((failClaims L unpackFuel).strct ht) fun _ => trivial
    · exact L.typed _ rfl
  | .slice t | .array _ t => fun _ _ ht => (failClaims L unpackFuel).merge ht
  | .config => by intro old cfg _; unfold unpack; split <;> first | exact trivial | exact L.typed _ rfl
  | .prim _ | .regexp | .iface | .unsupported | .badmap => fun _ _ _ => L.typed _ rfl

end
end Ucfg
