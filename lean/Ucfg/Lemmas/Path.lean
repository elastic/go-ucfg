import Ucfg.Lemmas.Dict
import Ucfg.Lemmas.Outcome
/-
  What the single steps of Model/Path.lean compute on a config node: `asetNat` as padding followed by `List.set`,
  `fieldGet` / `fieldSet` / `putChild` on `.sub`, and the two ways a `pathSet` over a path of two or more
  fields can succeed; that a parsed path is never empty; and that the steps fail with `ucfg.Error`s only (`fieldGet_fails`,
  `pathGet_fails`, `fieldSet_fails`).
  The path theorems of C12, the growth bounds of C20 and the path parts of C07 / C14 are read off these.
-/
namespace Ucfg
open Outcome

theorem asetNat_eq_set (a : List Val) (n : Nat) (v : Val) :
    asetNat a n v = (a ++ List.replicate (n + 1 - a.length) Val.nilV).set n v := by
  fun_induction asetNat a n v with
  | case1 v => rfl
  | case2 n v ih => rw [ih]; rfl
  | case3 x r v => simp
  | case4 x r n v ih => rw [ih, List.length_cons, Nat.add_sub_add_right]; rfl

theorem length_asetNat (a : List Val) (n : Nat) (v : Val) : (asetNat a n v).length = max a.length (n + 1) := by
  rw [asetNat_eq_set, List.length_set, List.length_append, List.length_replicate, Nat.add_comm, Nat.sub_add_eq_max,
    Nat.max_comm]

theorem getElem?_asetNat (a : List Val) (n m : Nat) (v : Val) :
    (asetNat a n v)[m]? =
      if m = n then some v else if m < a.length then a[m]? else if m < n then some Val.nilV else none := by
  rw [asetNat_eq_set]
  by_cases h1 : m = n
  · subst h1
    rw [if_pos rfl, List.getElem?_set_self]
    rw [List.length_append, List.length_replicate]
    exact Nat.sub_le_iff_le_add'.mp (Nat.le_refl _)
  · rw [if_neg h1, List.getElem?_set_ne (Ne.symm h1), List.getElem?_append]
    by_cases h2 : m < a.length
    · rw [if_pos h2, if_pos h2]
    · rw [if_neg h2, if_neg h2, List.getElem?_replicate]
      -- behind `a`: the padding reaches up to `n`
      have hL := Nat.le_of_not_lt h2
      by_cases h3 : m < n
      · rw [if_pos h3, if_pos (Nat.sub_lt_sub_right hL (Nat.lt_succ_of_lt h3))]
      · rw [if_neg h3, if_neg (Nat.not_lt.mpr
          (Nat.sub_le_sub_right (Nat.lt_of_le_of_ne (Nat.le_of_not_lt h3) (Ne.symm h1)) _))]

theorem ite_of_not_iff {α : Type} {c d : Prop} [Decidable c] [Decidable d] (h : ¬ c ↔ d) (x y : α) :
    (if c then x else y) = if d then y else x := by
  by_cases hc : c
  · rw [if_pos hc, if_neg (fun hd => h.mpr hd hc)]
  · rw [if_neg hc, if_pos (h.mp hc)]

theorem not_outside_iff {i n : Int} : ¬ (i < 0 ∨ n ≤ i) ↔ 0 ≤ i ∧ i < n := by
  rw [not_or, Int.not_lt, Int.not_le]

theorem adel_eq_eraseIdx (a : List Val) (i : Int) :
    adel a i = if 0 ≤ i ∧ i < a.length then (a.eraseIdx i.toNat, true) else (a, false) := by
  simp only [adel, Extracted.guard_delAt_reject, Bool.or_eq_true, decide_eq_true_eq]
  exact ite_of_not_iff not_outside_iff _ _

@[simp] theorem fieldGet_named_sub (n : String) (d : Dict) (a : List Val) (hd ha : Bool) :
    fieldGet tcPlain (.named n) (.sub d a hd ha) = .ok (dget d n) := rfl

theorem fieldGet_idx_sub (i : Int) (d : Dict) (a : List Val) (hd ha : Bool) :
    fieldGet tcPlain (.idx i) (.sub d a hd ha) =
      if 0 ≤ i ∧ i < a.length then .ok a[i.toNat]? else raise .missing := by
  simp only [fieldGet, tcPlain, Val.arr, Extracted.guard_idxGet_missing]
  by_cases h : 0 ≤ i ∧ i < a.length
  · have h1 : ¬ i < 0 := Int.not_lt.mpr h.1
    have h2 : ¬ i ≥ a.length := Int.not_le.mpr h.2
    simp [h, h1, h2]
  · have : i < 0 ∨ i ≥ a.length := Decidable.of_not_not fun c => h (not_outside_iff.mp c)
    simp [h, this]

@[simp] theorem fieldSet_named_sub (o : Opts) (n : String) (d : Dict) (a : List Val) (hd ha : Bool) (v : Val) :
    fieldSet o (.named n) (.sub d a hd ha) v = .ok (.sub (dset d n v) a true ha) := rfl

/-- (`hugeAlloc`: the bound beyond which fields.setAt's allocation is modelled as a panic - Model/Path.lean, and
`fieldSet_fails` below) -/
theorem fieldSet_idx_sub_eq_ok {o : Opts} {i : Int} {d : Dict} {a : List Val} {hd ha : Bool} {v t : Val} :
    fieldSet o (.idx i) (.sub d a hd ha) v = .ok t ↔
      (0 ≤ i ∧ i ≤ o.maxIdx ∧ i < hugeAlloc) ∧ t = .sub d (asetNat a i.toNat v) hd true := by
  simp only [fieldSet, Extracted.guard_idxSet_reject, Bool.or_eq_true, decide_eq_true_eq]
  by_cases hg : i < 0 ∨ i > o.maxIdx
  · rw [if_pos hg]
    exact ⟨(fun h => nomatch h), fun ⟨h, _⟩ =>
      hg.elim (fun c => absurd h.1 (Int.not_le.mpr c)) (fun c => absurd h.2.1 (Int.not_le.mpr c))⟩
  · have h0 : 0 ≤ i := Int.not_lt.mp fun c => hg (.inl c)
    have h1 : i ≤ o.maxIdx := Int.not_lt.mp fun c => hg (.inr c)
    rw [if_neg hg, if_neg (Int.not_lt.mpr h0)]
    by_cases h3 : i ≥ hugeAlloc
    · rw [if_pos h3]
      exact ⟨(fun h => nomatch h), fun ⟨h, _⟩ => absurd h.2.2 (Int.not_lt.mpr h3)⟩
    · rw [if_neg h3]
      exact ⟨fun h => ⟨⟨h0, h1, Int.not_le.mp h3⟩, (ok.inj h).symm⟩, fun ⟨_, h⟩ => by rw [h]⟩

theorem fieldSet_ok_sub {o : Opts} {f : Field} {node v t : Val} (h : fieldSet o f node v = .ok t) :
    ∃ d a hd ha, node = .sub d a hd ha := by
  cases node with
  | sub d a hd ha => exact ⟨d, a, hd, ha, rfl⟩
  | prim p => simp [fieldSet, raise] at h
  | dyn i e => simp [fieldSet, raise] at h

theorem putChild_ok_sub {node : Val} {f : Field} {c t : Val} (h : putChild node f c = .ok t) :
    ∃ d a hd ha, node = .sub d a hd ha := by
  cases node with
  | sub d a hd ha => exact ⟨d, a, hd, ha, rfl⟩
  | prim p => cases f <;> simp [putChild, raise] at h
  | dyn i e => cases f <;> simp [putChild, raise] at h

@[simp] theorem putChild_named_sub (n : String) (d : Dict) (a : List Val) (hd ha : Bool) (c : Val) :
    putChild (.sub d a hd ha) (.named n) c = .ok (.sub (dset d n c) a hd ha) := rfl

@[simp] theorem putChild_idx_sub (i : Int) (d : Dict) (a : List Val) (hd ha : Bool) (c : Val) :
    putChild (.sub d a hd ha) (.idx i) c = .ok (.sub d (a.set i.toNat c) hd ha) := rfl

theorem buildChain_cons_eq_ok {o : Opts} {f : Field} {fs : List Field} {v t : Val}
    (h : buildChain o (f :: fs) v = .ok t) :
    ∃ inner, buildChain o fs v = .ok inner ∧ fieldSet o f Val.empty inner = .ok t :=
  bind_eq_ok h

theorem pathGet_cons_cons {tc : TC} {f g : Field} {r : List Field} {cur c : Val} (h : fieldGet tc f cur = .ok (some c)) :
    pathGet tc (f :: g :: r) cur = pathGet tc (g :: r) c := by
  simp [pathGet, h]

theorem pathGet_single {tc : TC} {f : Field} {cur : Val} {v : Option Val} (h : fieldGet tc f cur = .ok v) :
    pathGet tc [f] cur = .ok v := by
  simp [pathGet, h]

theorem pathGet_single_eq_ok {tc : TC} {f : Field} {cur : Val} {x : Option Val} (h : pathGet tc [f] cur = .ok x) :
    fieldGet tc f cur = .ok x := by
  simp only [pathGet] at h
  split at h
  · cases h
  · exact h

theorem pathGet_cons_cons_eq_ok {tc : TC} {f g : Field} {r : List Field} {cur : Val} {x : Option Val}
    (h : pathGet tc (f :: g :: r) cur = .ok x) :
    ∃ c, fieldGet tc f cur = .ok (some c) ∧ pathGet tc (g :: r) c = .ok x := by
  simp only [pathGet] at h
  split at h
  · cases h
  · rename_i c hf; exact ⟨c, hf, h⟩
  all_goals cases h

/-- A write through a path of two or more fields succeeds in one of two ways: the containers for the rest of the path are
built and stored under the first field (nothing usable was there), or the write goes on inside the child found there and
the updated child is put back. -/
theorem pathSet_cons_cons_eq_ok {tc : TC} {o : Opts} {f g : Field} {r : List Field} {node v t : Val}
    (h : pathSet tc o (f :: g :: r) node v = .ok t) :
    (∃ inner, buildChain o (g :: r) v = .ok inner ∧ fieldSet o f node inner = .ok t) ∨
    (∃ c c', fieldGet tc f node = .ok (some c) ∧ pathSet tc o (g :: r) c v = .ok c' ∧ putChild node f c' = .ok t) := by
  simp only [pathSet] at h
  split at h
  · split at h
    · exact Or.inl (bind_eq_ok h)
    · cases h
  · exact Or.inl (bind_eq_ok h)
  · rename_i c hg
    split at h
    · exact Or.inl (bind_eq_ok h)
    · obtain ⟨c', hc, hp⟩ := bind_eq_ok h
      exact Or.inr ⟨c, c', hg, hc, hp⟩
  · cases h
  · cases h

theorem splitAux_ne_nil (sepl : List Char) : ∀ (l : List Char) (k : Nat) (acc : List Char), splitAux sepl l k acc ≠ [] := by
  intro l
  induction l with
  | nil => intro _ _; simp [splitAux]
  | cons c r ih =>
    intro k acc
    cases k with
    | succ k => simp only [splitAux]; exact ih k acc
    | zero =>
      simp only [splitAux]
      split
      · simp
      · exact ih 0 (c :: acc)

/-- a key or path of any shape parses to at least one field -/
theorem parsePath_ne_nil (s sep : String) (m : Int) (enk esc : Bool) : parsePath s sep m enk esc ≠ [] := by
  unfold parsePath
  split
  · simp
  · simp only [ne_eq, List.map_eq_nil_iff, splitOn]
    exact splitAux_ne_nil _ _ _ _

/-! ### how the steps fail

For any condition `S` on failures that allows `ucfg.Error`s (`Lemmas/Outcome.lean`): the proofs go through the guards
regenerated from path.go, so a dropped bounds check breaks them. -/

section
variable {S : FailSpec}

/-- reading one field - any name, any index, negative and huge ones included - fails with `ucfg.Error`s only: the index
is inside the list wherever the guard regenerated from path.go lets it through (`fieldGet_idx_sub`) -/
theorem fieldGet_fails (hS : S.Typed) (f : Field) (v : Val) : (fieldGet tcPlain f v).Fails S := by
  -- on a config node: what `fieldGet_named_sub` / `fieldGet_idx_sub` say; a null reads as the empty config
  have sub (d a hd ha) : (fieldGet tcPlain f (.sub d a hd ha)).Fails S := by
    cases f with
    | named n => trivial
    | idx i => rw [fieldGet_idx_sub]; exact Fails.ite (fun _ => trivial) fun _ => hS _ rfl
  -- anything else is no config: value.toConfig's (untyped) error is replaced
  have other (h : ∃ e, tcPlain v = .err e) : (fieldGet tcPlain f v).Fails S := by
    obtain ⟨e, he⟩ := h
    unfold fieldGet
    cases f with
    | named n => rw [he]; exact hS _ rfl
    | idx i => rw [he]; exact Fails.ite (fun _ => trivial) fun _ => hS _ rfl
  cases v with
  | sub d a hd ha => exact sub d a hd ha
  | dyn i e => exact other ⟨_, rfl⟩
  | prim p =>
    cases p with
    | nil => cases f <;> exact sub [] [] false false
    | _ => exact other ⟨_, rfl⟩

/-- ... and so does a whole lookup along a path that is not empty (every path the API builds: `parsePath_ne_nil`) -/
theorem pathGet_fails (hS : S.Typed) : ∀ (p : List Field) (cur : Val), p ≠ [] → (pathGet tcPlain p cur).Fails S := by
  intro p
  induction p with
  | nil => intro _ hp; exact absurd rfl hp
  | cons f q ih =>
    intro cur _
    have := fieldGet_fails hS f cur
    cases q with
    | nil =>
      simp only [pathGet]
      -- the model's match on `fieldGet`: an error of the last field is replaced by `missing`, anything else is passed on
      split
      · exact hS _ rfl
      · exact this
    | cons g rest =>
      simp only [pathGet]
      -- in the order of the model: nothing there (`missing`), a child to go on in, an error, a panic, fuel
      split
      · exact hS _ rfl
      · exact ih _ nofun
      · exact this.of_err ‹_›
      · exact this.of_panic ‹_›
      · trivial

/-- writing one field fails with `ucfg.Error`s only; a negative index does not get past the guard regenerated from path.go,
and one beyond the guard's bound allocates at most `MaxIdx + 1` slots - which is bounded as long as the configured `MaxIdx`
is (`hm`; a specification that does not mind panics needs no bound) -/
theorem fieldSet_fails (hS : S.Typed) (o : Opts) (f : Field) (node v : Val)
    (hm : o.maxIdx < hugeAlloc ∨ ∀ s, S.panic s) : (fieldSet o f node v).Fails S := by
  cases node with
  | sub d a hd ha =>
    cases f with
    | named n => trivial
    | idx i =>
      refine Fails.ite (fun _ => hS _ rfl) fun hg => ?_
      have hb : 0 ≤ i ∧ i ≤ o.maxIdx := by simpa [Extracted.guard_idxSet_reject] using hg
      rw [if_neg (by omega)]
      exact Fails.ite (fun hh => hm.elim (fun hm => by omega) fun hp => hp _) fun _ => trivial
  | _ => exact hS _ rfl

end

end Ucfg
