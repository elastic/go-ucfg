import Ucfg.Model.Merge
import Ucfg.Lemmas.AList
/-
  `dget` after `dset`, `dget` read as `List.lookup` (so that the facts about distinct keys of Lemmas/AList.lean apply),
  and what the deep copy `cpyD` / `cpyA` (cfgSub.cpy) does to lookups and lengths.
-/
namespace Ucfg

@[simp] theorem dget_nil (k : String) : dget [] k = none := rfl

theorem dget_dset (d : Dict) (k k' : String) (v : Val) :
    dget (dset d k v) k' = if k = k' then some v else dget d k' := by
  induction d with
  | nil => rfl
  | cons kv r ih =>
    obtain ⟨k₁, v₁⟩ := kv
    rw [dset]
    by_cases h1 : k = k₁
    · subst h1
      rw [if_pos rfl, dget, dget]
      by_cases h : k = k' <;> simp only [h, if_true, if_false]
    · rw [if_neg h1]
      by_cases h2 : k < k₁
      · rw [if_pos h2, dget]
      · rw [if_neg h2, dget, ih, dget]
        by_cases h3 : k₁ = k'
        · rw [if_pos h3, if_pos h3, if_neg (h3 ▸ h1)]
        · rw [if_neg h3, if_neg h3]

theorem dget_dset_same {d : Dict} {k : String} {v : Val} : dget (dset d k v) k = some v := by
  rw [dget_dset, if_pos rfl]

theorem dget_dset_other {d : Dict} {k k' : String} {v : Val} (h : k ≠ k') :
    dget (dset d k v) k' = dget d k' := by
  rw [dget_dset, if_neg h]

def dkeysOf (d : Dict) : List String := d.map Prod.fst

theorem dget_eq_lookup (d : Dict) (k : String) : dget d k = d.lookup k := by
  induction d with
  | nil => rfl
  | cons e r ih =>
    obtain ⟨k', v⟩ := e
    by_cases h : k' = k
    · simp [dget, h]
    · simp [dget, List.lookup_cons, h, beq_eq_false_iff_ne.mpr (Ne.symm h), ih]

theorem dget_none_of_not_mem {d : Dict} {k : String} (h : k ∉ dkeysOf d) : dget d k = none :=
  dget_eq_lookup d k ▸ lookup_eq_none_of_not_mem h

@[simp] theorem cpyA_length (a : List Val) : (cpyA a).length = a.length := by
  induction a with
  | nil => rfl
  | cons v r ih => simp [cpyA, ih]

@[simp] theorem cpyD_length (d : Dict) : (cpyD d).length = d.length := by
  induction d with
  | nil => rfl
  | cons kv r ih => obtain ⟨k, v⟩ := kv; simp [cpyD, ih]

theorem dget_cpyD (d : Dict) (k : String) : dget (cpyD d) k = (dget d k).map cpy := by
  induction d with
  | nil => rfl
  | cons kv r ih => obtain ⟨k', v⟩ := kv; simp only [cpyD, dget]; split <;> simp [ih]

theorem dget_eq_some_iff_mem {d : Dict} (hnd : (dkeysOf d).Nodup) {k : String} {v : Val} :
    dget d k = some v ↔ (k, v) ∈ d :=
  dget_eq_lookup d k ▸ lookup_eq_some_iff_mem hnd

end Ucfg
