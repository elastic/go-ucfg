import Ucfg.Base.Outcome
/-
  Reasoning about `Outcome` without unfolding it: what a successful `>>=` went through, and `Fails S x` - every
  failure of `x` is one that `S` allows - with the rules that carry it through the code of a model function.
  "Never panics" (`errOnly`, C07) and "every error is a ucfg.Error" (`C14.typedSpec`) are the two instances in use; both
  allow every `ucfg.Error` (`FailSpec.Typed`), which is all the walks through the model ask of `S`.
-/
namespace Ucfg.Outcome
variable {α β : Type}

theorem bind_eq_ok {x : Outcome α} {f : α → Outcome β} {r : β}
    (h : (x >>= f) = .ok r) : ∃ a, x = .ok a ∧ f a = .ok r := by
  cases x with
  | ok a => exact ⟨a, rfl, h⟩
  | _ => cases h

/-- What is asked of a call that does not succeed: `err` of an error value, `panic` of a panic site.
Running out of fuel is never held against a call. -/
structure FailSpec where
  err : Err → Prop
  panic : String → Prop

def Fails (S : FailSpec) : Outcome α → Prop
  | .err e => S.err e
  | .panic s => S.panic s
  | _ => True

variable {S : FailSpec}

theorem Fails.bind {x : Outcome α} {f : α → Outcome β} (hx : x.Fails S) (hf : ∀ a, (f a).Fails S) :
    (x >>= f).Fails S := by
  cases x with
  | ok a => exact hf a
  | _ => exact hx

theorem Fails.seq {x : Outcome α} {y : Outcome β} (hx : x.Fails S) (hy : y.Fails S) : (x *> y).Fails S :=
  hx.bind fun _ => hy

theorem Fails.ite {c : Prop} [Decidable c] {x y : Outcome α} (hx : c → x.Fails S) (hy : ¬ c → y.Fails S) :
    (if c then x else y).Fails S := by
  split
  · exact hx ‹_›
  · exact hy ‹_›

/-- for the model's hand-written `| .err e => .err e` alternatives, which change the result type -/
theorem Fails.of_err {x : Outcome α} {e : Err} (hx : x.Fails S) (h : x = .err e) : (.err e : Outcome β).Fails S := by
  subst h; exact hx

theorem Fails.of_panic {x : Outcome α} {s : String} (hx : x.Fails S) (h : x = .panic s) :
    (.panic s : Outcome β).Fails S := by
  subst h; exact hx

def FailSpec.Typed (S : FailSpec) : Prop := ∀ e : Err, e.typed = true → S.err e

def errOnly : FailSpec := ⟨fun _ => True, fun _ => False⟩

theorem isPanic_iff_fails {x : Outcome α} : x.isPanic = false ↔ x.Fails errOnly := by
  cases x <;> simp [isPanic, Fails, errOnly]

/-! the rules again for the `isPanic = false` form, in which the parsers' theorems are stated -/

theorem bind_noPanic {x : Outcome α} {f : α → Outcome β}
    (hx : x.isPanic = false) (hf : ∀ a, (f a).isPanic = false) : (x >>= f).isPanic = false :=
  isPanic_iff_fails.2 ((isPanic_iff_fails.1 hx).bind fun a => isPanic_iff_fails.1 (hf a))

theorem ite_noPanic {c : Prop} [Decidable c] {x y : Outcome α}
    (hx : c → x.isPanic = false) (hy : ¬ c → y.isPanic = false) : (if c then x else y).isPanic = false :=
  isPanic_iff_fails.2 (Fails.ite (fun h => isPanic_iff_fails.1 (hx h)) fun h => isPanic_iff_fails.1 (hy h))

end Ucfg.Outcome

/-! What the conversion theorems (C03, C06, C18) compare with their specifications; it is in namespace `C03` because their
statements name it so. -/
namespace Ucfg.C03
open Ucfg

def toOpt {α : Type} : Outcome α → Option α
  | .ok a => some a
  | _ => none

@[simp] theorem toOpt_ok {α : Type} (a : α) : toOpt (.ok a) = some a := rfl
@[simp] theorem toOpt_raiseRaw {α : Type} (r : Reason) : toOpt (Outcome.raiseRaw r : Outcome α) = none := rfl

theorem toOpt_bind {α β : Type} (x : Outcome α) (f : α → Outcome β) :
    toOpt (x >>= f) = (toOpt x).bind fun a => toOpt (f a) := by
  cases x <;> rfl

/-- the shape of every range check in reify.go -/
theorem toOpt_check {α : Type} (c : Prop) [Decidable c] (r : Reason) (a : α) :
    toOpt (if c then Outcome.raiseRaw r else .ok a) = if c then none else some a := by
  split <;> rfl

end Ucfg.C03
