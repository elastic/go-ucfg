import Ucfg.Lemmas.DictSorted
/-
  What the plain merge computes on nodes: two nodes (`mergeValsP_sub_sub`), the lists (`mergeArrP_eq`), a sorted
  dictionary merged into smaller keys, a fresh config on the left (a deep copy: this is NewFrom).  Then the identities
  of C01 on trees in canonical form - dictionaries sorted by key (what `dset` builds), the has-dictionary flag set exactly
  when there are entries, the has-list flag set when there are elements, no null settings: a deep copy is the tree
  itself, and merging a tree into itself gives the tree under the default, merge, replace and list-replace policies.
-/
namespace Ucfg

theorem mergeValsP_sub_sub (h : Handling) (d1 d2 : Dict) (a1 a2 : List Val) (hd1 ha1 hd2 ha2 : Bool) :
    mergeValsP h (some (.sub d1 a1 hd1 ha1)) (.sub d2 a2 hd2 ha2) =
      .sub (if d2.isEmpty then d1 else mergeDictP h (if h = .replace then [] else d1) d2)
        (arrPolicy h a1 a2 (mergeArrP h a1 a2) ha1).1
        (if d2.isEmpty then hd1 else true)
        (arrPolicy h a1 a2 (mergeArrP h a1 a2) ha1).2 := by
  simp [mergeValsP, toCfg?]

/-- mergeConfigMergeArr: the two lists merged index by index, then what is left of the longer one (B's as copies) -/
theorem mergeArrP_eq (h : Handling) (a1 a2 : List Val) :
    mergeArrP h a1 a2 =
      List.zipWith (fun x y => store (some x) y (mergeValsP h (some x) y)) a1 a2
        ++ a1.drop a2.length ++ cpyA (a2.drop a1.length) := by
  induction a1 generalizing a2 with
  | nil => cases a2 <;> simp [mergeArrP, cpyA]
  | cons x a ih =>
    cases a2 with
    | nil => simp [mergeArrP, cpyA]
    | cons y b => simp [mergeArrP, ih]

theorem arrPolicy_nil_left (h : Handling) (a : List Val) :
    arrPolicy h [] a (mergeArrP h [] a) false = (cpyA a, !a.isEmpty) := by
  cases a <;> cases h <;> simp [arrPolicy, mergeArrP, cpyA]

theorem mergeDictP_sorted (h : Handling) : ∀ (D acc : Dict), dSorted D = true → (∀ e ∈ acc, ∀ e' ∈ D, e.1 < e'.1) →
    mergeDictP h acc D = acc ++ cpyD D := by
  intro D
  induction D with
  | nil => intro acc _ _; exact (List.append_nil acc).symm
  | cons e r ih =>
    intro acc hs hlt
    obtain ⟨k, v⟩ := e
    obtain ⟨hb, hsr⟩ := List.pairwise_cons.mp ((dSorted_iff _).mp hs)
    have hall : ∀ e ∈ acc, e.1 < k := fun e he => hlt e he (k, v) List.mem_cons_self
    -- `k` is new to `acc` and above all its keys: a copy of `v` is appended, and `acc` stays below the rest
    have hnone : dget acc k = none := dget_none_of_not_mem fun hm => by
      obtain ⟨e, he, rfl⟩ := List.mem_map.mp hm
      exact String.lt_irrefl _ (hall e he)
    have hst : store none v (mergeValsP h none v) = cpy v := by
      rw [show mergeValsP h none v = v by simp [mergeValsP]]; rfl
    rw [mergeDictP, hnone, hst, dset_append_max acc k (cpy v) hall,
      ih (acc ++ [(k, cpy v)]) ((dSorted_iff r).mpr hsr) fun e he e' he' => by
        rcases List.mem_append.mp he with he | he
        · exact hlt e he e' (List.mem_cons_of_mem _ he')
        · rw [List.mem_singleton.mp he]; exact hb e' he',
      List.append_assoc]
    rfl

/-- Merging a node into a fresh config copies it, under every policy (this is NewFrom). -/
theorem mergeP_empty_left (h : Handling) (d : Dict) (a : List Val) (hd ha : Bool) :
    mergeP h Val.empty (.sub d a hd ha) = .sub (mergeDictP h [] d) (cpyA a) (!d.isEmpty) (!a.isEmpty) := by
  rw [mergeP, Val.empty, mergeValsP_sub_sub, arrPolicy_nil_left]
  cases d <;> simp [mergeDictP]

theorem mergeP_empty_left_sorted (h : Handling) (d : Dict) (a : List Val) (hd ha : Bool) (hs : dSorted d = true) :
    mergeP h Val.empty (.sub d a hd ha) = cpy (.sub d a hd (!a.isEmpty)) := by
  rw [mergeP_empty_left, mergeDictP_sorted h d [] hs (fun _ he => nomatch he), cpy, List.nil_append]

theorem isSome_dget_mergeDictP (h : Handling) (d1 d2 : Dict) (k : String) :
    (dget (mergeDictP h d1 d2) k).isSome = ((dget d1 k).isSome || (dget d2 k).isSome) := by
  induction d2 generalizing d1 with
  | nil => simp [mergeDictP]
  | cons e r ih =>
    obtain ⟨k2, v2⟩ := e
    rw [mergeDictP, ih, dget_dset, dget]
    by_cases hk : k2 = k <;> simp [hk]

mutual
def canonV : Val → Bool
  | .prim p => !(p == .nil)
  | .dyn _ _ => true
  | .sub d a hd ha => canonD d && canonA a && dSorted d && (hd == !d.isEmpty) && (ha || a.isEmpty)
def canonD : Dict → Bool
  | [] => true
  | (_, v) :: r => canonV v && canonD r
def canonA : List Val → Bool
  | [] => true
  | v :: r => canonV v && canonA r
end

theorem canonD_mem : ∀ (d : Dict), canonD d = true → ∀ e ∈ d, canonV e.2 = true := by
  intro d
  induction d with
  | nil => intro _ e he; simp at he
  | cons kv r ih =>
    intro hc e he
    simp only [canonD, Bool.and_eq_true] at hc
    simp only [List.mem_cons] at he
    rcases he with he | he
    · rw [he]; exact hc.1
    · exact ih hc.2 e he

theorem canonA_mem : ∀ (a : List Val), canonA a = true → ∀ x ∈ a, canonV x = true := by
  intro a
  induction a with
  | nil => intro _ x hx; simp at hx
  | cons v r ih =>
    intro hc x hx
    simp only [canonA, Bool.and_eq_true] at hc
    simp only [List.mem_cons] at hx
    rcases hx with hx | hx
    · rw [hx]; exact hc.1
    · exact ih hc.2 x hx

mutual
theorem cpy_canon : ∀ (v : Val), canonV v = true → cpy v = v
  | .prim _ => fun _ => by simp [cpy]
  | .dyn _ _ => fun _ => by simp [cpy]
  | .sub d a hd ha => by
    intro hc
    simp only [canonV, Bool.and_eq_true, beq_iff_eq] at hc
    obtain ⟨⟨⟨⟨hd1, ha1⟩, _⟩, hhd⟩, _⟩ := hc
    simp only [cpy, cpyD_canon d hd1, cpyA_canon a ha1, hhd]
theorem cpyD_canon : ∀ (d : Dict), canonD d = true → cpyD d = d
  | [] => fun _ => by simp [cpyD]
  | (k, v) :: r => by
    intro hc
    simp only [canonD, Bool.and_eq_true] at hc
    simp only [cpyD, cpy_canon v hc.1, cpyD_canon r hc.2]
theorem cpyA_canon : ∀ (a : List Val), canonA a = true → cpyA a = a
  | [] => fun _ => by simp [cpyA]
  | v :: r => by
    intro hc
    simp only [canonA, Bool.and_eq_true] at hc
    simp only [cpyA, cpy_canon v hc.1, cpyA_canon r hc.2]
end

/-- the policies under which a self-merge is the identity -/
def selfStable (h : Handling) : Prop := h = .dflt ∨ h = .merge ∨ h = .replace ∨ h = .arrReplace

theorem mergeDictP_same (h : Handling) : ∀ (d2 d1 : Dict), dSorted d1 = true →
    (∀ e ∈ d2, dget d1 e.1 = some e.2 ∧ store (some e.2) e.2 (mergeValsP h (some e.2) e.2) = e.2) →
    mergeDictP h d1 d2 = d1 := by
  intro d2
  induction d2 with
  | nil => intro d1 _ _; simp [mergeDictP]
  | cons e r ih =>
    intro d1 hs hall
    obtain ⟨k, v⟩ := e
    have h1 := hall (k, v) (by simp)
    simp only [mergeDictP, h1.1, h1.2]
    rw [dset_same d1 k v hs h1.1]
    exact ih d1 hs (fun e he => hall e (List.mem_cons_of_mem _ he))

theorem mergeArrP_same (h : Handling) : ∀ (a : List Val),
    (∀ x ∈ a, store (some x) x (mergeValsP h (some x) x) = x) → mergeArrP h a a = a := by
  intro a
  induction a with
  | nil => intro _; simp [mergeArrP]
  | cons x r ih =>
    intro hall
    simp only [mergeArrP, hall x (by simp)]
    rw [ih (fun y hy => hall y (List.mem_cons_of_mem _ hy))]

theorem mergeDictP_self (h : Handling) (d : Dict) (hs : dSorted d = true) (hc : cpyD d = d)
    (hall : ∀ e ∈ d, store (some e.2) e.2 (mergeValsP h (some e.2) e.2) = e.2) :
    mergeDictP h (if h = .replace then [] else d) d = d := by
  split
  · rw [mergeDictP_sorted h d [] hs (fun _ he => nomatch he), List.nil_append, hc]
  · exact mergeDictP_same h d d hs fun e he => ⟨(dget_eq_some_iff_mem (dSorted_nodup d hs)).mpr he, hall e he⟩

theorem arrPolicy_self (h : Handling) (hs : selfStable h) (a : List Val) (ha : Bool) (hm : mergeArrP h a a = a)
    (hc : cpyA a = a) (hfl : (ha || a.isEmpty) = true) : arrPolicy h a a (mergeArrP h a a) ha = (a, ha) := by
  rw [hm]
  cases a with
  | nil => rcases hs with rfl | rfl | rfl | rfl <;> simp [arrPolicy]
  | cons x r =>
    have : ha = true := by simpa using hfl
    subst this
    rcases hs with rfl | rfl | rfl | rfl <;> simp [arrPolicy, hc]

end Ucfg
