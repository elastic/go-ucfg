import Ucfg.Lemmas.Merge
import Ucfg.Lemmas.Canonical
import Ucfg.Props.C16
/-
  C05 — every input shape normalizes to the same canonical tree.
-/
namespace Ucfg.C05
open Ucfg

/-- integers keep their numeric value through normalisation (positive ones are carried as uint64) -/
theorem normValue_int (o : Opts) (i : Int) :
    normValue o (.int i) = .ok (if i > 0 then .prim (.uint i.toNat) else .prim (.int i)) :=
  rfl

/-- without variable expansion a string is stored verbatim, whatever it contains -/
theorem normValue_str (o : Opts) (s : String) (h : o.varexp = false) :
    normValue o (.str s) = .ok (.prim (.str s)) :=
  normalizeString_plain h s

/-- durations and regular expressions are normalised to their textual form -/
theorem normValue_dur (o : Opts) (t : String) : normValue o (.dur t) = .ok (.prim (.str t)) :=
  rfl

/-- a regular expression - held by pointer or by value (the repaired D56), the model does not tell them apart - is its text -/
theorem normValue_regex (o : Opts) (t : String) : normValue o (.regex t) = .ok (.prim (.str t)) :=
  rfl

/-- a value no setting can be made from (channel, function, complex number, uintptr - the repaired D58) is an error of the
input, whatever the options: never a value, never a panic -/
theorem normValue_unsupported (o : Opts) : normValue o .unsupported = Outcome.raise .typeMismatch :=
  rfl

/-- Two definitions of one setting inside one input, neither nil and not both containers, are a
duplicate — in either order. -/
theorem combine_duplicate (o v : Val) (hv : v.isNilPrim = false) (ho : o.isNilPrim = false)
    (hns : (o.isSub && v.isSub) = false) :
    combineV (some o) v = Outcome.raise .duplicateKey := by
  -- by the case table of normalizeCombine: once the shapes are known, both sides compute
  cases v with
  | prim p => cases p with
    | nil => cases hv
    | _ => cases o with
      | prim q => cases q with
        | nil => cases ho
        | _ => rfl
      | _ => rfl
  | dyn i e => cases o with
    | prim q => cases q with
      | nil => cases ho
      | _ => rfl
    | _ => rfl
  | sub d2 a2 hd2 ha2 => cases o with
    | prim q => cases q with
      | nil => cases ho
      | _ => rfl
    | dyn _ _ => rfl
    | sub _ _ _ _ => cases hns

/-- a nil definition next to a real one changes nothing, whichever comes first -/
theorem combine_nil_right (old : Val) : combineV (some old) Val.nilV = .ok none :=
  rfl

/-- ... and a nil definition of a name that does not exist yet makes the name exist, as it does when it is visited first -/
theorem combine_nil_new : combineV none Val.nilV = .ok (some Val.nilV) :=
  rfl

/-- the other order: a real definition that comes after a nil one takes its place -/
theorem combine_nil_left (v : Val) (hv : v.isNilPrim = false) :
    combineV (some Val.nilV) v = .ok (some (cpy v)) := by
  cases v with
  | prim p => cases p with
    | nil => cases hv
    | _ => rfl
  | _ => rfl

/-- the generic view of a primitive is the primitive -/
theorem reify_prim (p : Prim) : reifyP (.prim p) = .ok p.toData :=
  rfl

example : (Val.prim (.int 1)).isNilPrim = false := rfl

/-! ### the lift: NewFrom then Unpack into interface{} returns the data

`expect` (Lemmas/Canonical.lean) is the generic view written on the Go data alone.  For every plain input map - scalars,
non-empty lists and non-empty string-keyed maps nested to any depth, keys that are single path segments and all different,
no variable expansion - creating a config from it and reifying it returns exactly that view: map entries sorted by key,
positive integers unsigned, durations and regexps as their text. -/

/-- NewFrom: normalize, then merge into the empty config - which, without per-field policies, copies a dictionary that
normalization has left sorted -/
theorem newFrom_sorted (o : Opts) (x : GoData) (D : Dict) (hd : Bool) (hft : o.fieldTree = none) (hx : x ≠ .nil)
    (hn : normalize o x = .ok (.sub D [] hd false)) (hs : dSorted D = true) :
    newFrom o x = .ok (cpy (.sub D [] hd false)) := by
  have h : newFrom o x = normalize o x >>= fun v => .ok (mergeCfg o Val.empty v) := by
    cases x <;> first | rfl | exact absurd rfl hx
  rw [h, hn, Outcome.bind_ok, mergeCfg, hft, C16.noTree_eq_global]
  exact congrArg _ (mergeP_empty_left_sorted _ D [] hd false hs)

theorem newFrom_then_reify (o : Opts) (m : List (String × GoData)) (hv : o.varexp = false) (hft : o.fieldTree = none)
    (hp : plainData o (.map m) = true) :
    (newFrom o (.map m) >>= reifyP) = .ok (expect (.map m)) := by
  have hp' : (!m.isEmpty && plainM o [] m) = true := hp
  simp only [Bool.and_eq_true, Bool.not_eq_true', List.isEmpty_eq_false_iff] at hp'
  obtain ⟨d', hd', hn, hr, hs, hne⟩ := normM_expect o hv m [] [] [] false hp'.2 rfl rfl nofun
  rw [newFrom_sorted o (.map m) d' hd' hft nofun hn hs, Outcome.bind_ok, reifyP_cpy]
  cases d' with
  | nil => exact absurd rfl (hne hp'.1)
  | cons e r => rw [reifyP, hr]; rfl

/-! non-vacuity: a nested input in the universe of the theorem -/
example : plainData {} (.map [("b", .list [.int 3, .str "x"]), ("a", .map [("k", .bool true)])]) = true := by decide +kernel

end Ucfg.C05
