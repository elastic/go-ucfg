import Ucfg.Model.Eval
import Ucfg.Lemmas.Outcome
/-
  C02 — variable expansion is late-bound substitution with a fixed lookup order.
  (C07 shares `parseSplice_never_panics`.)
-/
namespace Ucfg.C02
open Ucfg Outcome

/-- what the lexer guarantees of its token list, read from depth `d`: a `}` token only closes an open `${`, and a
  separator token carries one of the three operators -/
def WellNested : Nat → List Tok → Prop
  | _, [] => True
  | d, .opn :: r => WellNested (d + 1) r
  | d, .cls :: r => 0 < d ∧ WellNested (d - 1) r
  | d, .sep op :: r => (op = ":" ∨ op = ":+" ∨ op = ":?") ∧ WellNested d r
  | d, .str _ :: r => WellNested d r

theorem strTok_wn {d : Nat} {pend : List Char} (rest : List Tok) (h : WellNested d rest) :
    WellNested d (strTok pend ++ rest) := by
  unfold strTok
  split <;> exact h

/-- with `vc` variables open, what the lexer emits is nested from depth `vc` -/
theorem lexGo_wn (vc : Nat) (pend r : List Char) : WellNested vc (lexGo vc pend r) := by
  -- the cases are the branches of `lexGo` (Model/Vars.lean) in order
  fun_induction lexGo vc pend r with
  -- end of input, after a `$` and after a `:` included: the pending text is the last token
  | case1 | case2 | case7 => rw [← List.append_nil (strTok _)]; exact strTok_wn [] trivial
  -- `$$`, `$}`, `$` before anything else, and an ordinary character: the scan goes on with more pending text
  | case4 | case5 | case6 | case12 => assumption
  -- `${` opens a variable
  | case3 vc pend c _ r' ih => rw [List.append_assoc]; exact strTok_wn _ ih
  -- inside a variable `:+`, `:?` and `:` are the three operators
  | case8 vc pend c _ _ r' ih => rw [List.append_assoc]; exact strTok_wn _ ⟨.inr (.inl rfl), ih⟩
  | case9 vc pend c _ _ r' ih => rw [List.append_assoc]; exact strTok_wn _ ⟨.inr (.inr rfl), ih⟩
  | case10 vc pend c _ _ c2 r2 _ _ ih => rw [List.append_assoc]; exact strTok_wn _ ⟨.inl rfl, ih⟩
  -- `}` closes only when vc > 0
  | case11 vc pend c r _ _ h ih =>
    rw [List.append_assoc]
    exact strTok_wn _ ⟨of_decide_eq_true (Bool.and_eq_true_iff.mp h).1, ih⟩

/-- the lexer only closes what it opened, and only emits the three known operators -/
theorem lexer_wellNested (s : String) : WellNested 0 (lexer s) :=
  lexGo_wn 0 [] s.toList

/-- the operators makeOpExpansion has a case for; on any other it panics -/
def KnownOp (op : String) : Prop := op = ":" ∨ op = ":+" ∨ op = ":?"

/-- what the parser keeps of its stack, so that closing a variable never meets an unknown operator: a frame that has
  passed its separator holds a known one -/
def StackOK (stack : List PState) : Prop := ∀ st ∈ stack, st.right = true → KnownOp st.op

theorem stackOK_cons {st : PState} {stack : List PState} :
    StackOK (st :: stack) ↔ (st.right = true → KnownOp st.op) ∧ StackOK stack :=
  List.forall_mem_cons

/-- makeOpExpansion is only reached with one of the three operators it knows -/
theorem finalize_noPanic (st : PState) (c : VarCfg) (h : st.right = true → KnownOp st.op) :
    (st.finalize c).isPanic = false := by
  refine ite_noPanic (fun _ => rfl) fun _ => ite_noPanic (fun _ => rfl) fun _ =>
    ite_noPanic (fun _ => ?_) fun hr => ?_
  · split <;> rfl
  · obtain h1 | h1 | h1 := h (by simpa using hr) <;> rw [h1] <;> rfl

theorem stackOK_add (st : PState) (e : Expr) (h : st.right = true → KnownOp st.op) :
    (st.add e).right = true → KnownOp (st.add e).op := by
  unfold PState.add; split <;> exact h

theorem stackOK_addStr (st : PState) (s : String) (h : st.right = true → KnownOp st.op) :
    (st.addStr s).right = true → KnownOp (st.addStr s).op := by
  unfold PState.addStr; split <;> exact h

/-- with a stack one deeper than the nesting depth, parseVarExp never indexes an empty stack and
never meets an unknown operator -/
theorem parseToks_noPanic (c : VarCfg) : ∀ (toks : List Tok) (d : Nat) (stack : List PState),
    stack.length = d + 1 → StackOK stack → WellNested d toks → (parseToks c stack toks).isPanic = false := by
  intro toks
  induction toks with
  | nil =>
    intro d stack _ _ _
    unfold parseToks
    split
    · split <;> rfl
    · rfl
    · rfl
  | cons tok rest ih =>
    intro d stack hl hs hw
    obtain ⟨top, more, rfl⟩ : ∃ top more, stack = top :: more := by
      cases stack with
      | nil => cases hl
      | cons top more => exact ⟨top, more, rfl⟩
    have ⟨htop, hmore⟩ := stackOK_cons.mp hs
    cases tok with
    | opn => exact ih (d + 1) _ (congrArg (· + 1) hl) (stackOK_cons.mpr ⟨nofun, hs⟩) hw
    | cls =>
      -- depth d > 0: there is a state below the top one to take the finished piece
      obtain ⟨hd, hw⟩ := hw
      obtain ⟨d, rfl⟩ : ∃ d', d = d' + 1 := ⟨d - 1, (Nat.succ_pred_eq_of_pos hd).symm⟩
      cases more with
      | nil => cases Nat.succ.inj hl
      | cons nxt more' =>
        have ⟨hnxt, hmore'⟩ := stackOK_cons.mp hmore
        have hf := finalize_noPanic top c htop
        rw [parseToks]
        cases hfin : top.finalize c with
        | ok piece =>
          exact ih d _ (Nat.succ.inj hl) (stackOK_cons.mpr ⟨stackOK_add nxt piece hnxt, hmore'⟩) hw
        | panic s => rw [hfin] at hf; cases hf
        | err e => rfl
        | fuel => rfl
    | sep op =>
      rw [parseToks]
      exact ite_noPanic (fun _ => rfl) fun _ => ite_noPanic
        (fun _ => ih d _ hl (stackOK_cons.mpr ⟨stackOK_addStr top op htop, hmore⟩) hw.2)
        (fun _ => ih d _ hl (stackOK_cons.mpr ⟨fun _ => hw.1, hmore⟩) hw.2)
    | str s => exact ih d _ hl (stackOK_cons.mpr ⟨stackOK_addStr top s htop, hmore⟩) hw

/-- parsing the `${…}` syntax of any string never panics: the parser's stack accesses are always in
range and makeOpExpansion's `panic("Unknown operator")` is unreachable -/
theorem parseSplice_never_panics (s : String) (c : VarCfg) : (parseSplice s c).isPanic = false :=
  parseToks_noPanic c (lexer s) 0 [{}] rfl (stackOK_cons.mpr ⟨nofun, fun _ h => nomatch h⟩) (lexer_wellNested s)

/-! ### escapes -/

/-- `$$` is a literal `$`, inside and outside of `${…}` -/
theorem lex_escape_dollar (vc : Nat) (pend r : List Char) :
    lexGo vc pend ('$' :: '$' :: r) = lexGo vc (pend ++ ['$']) r :=
  rfl

/-- `$}` is a literal `}` -/
theorem lex_escape_brace (vc : Nat) (pend r : List Char) :
    lexGo vc pend ('$' :: '}' :: r) = lexGo vc (pend ++ ['}']) r :=
  rfl

/-- outside of `${…}` nothing but `$` is special: text without `$` is one literal -/
theorem lex_plain (s pend : List Char) (h : ∀ c ∈ s, c ≠ '$') : lexGo 0 pend s = strTok (pend ++ s) := by
  induction s generalizing pend with
  | nil => simp [lexGo]
  | cons c r ih =>
    have hc : (c == '$') = false := by simpa using h c (by simp)
    unfold lexGo
    simp only [hc, Bool.false_eq_true, if_false, Nat.lt_irrefl, decide_false, Bool.false_and]
    rw [ih (pend ++ [c]) (fun x hx => h x (by simp [hx]))]
    simp

/-! ### lookup order -/

/-- a reference is looked up in the tree the setting lives in first, then in the Env configs, most
recently added first (unless it is being re-entered) -/
theorem lookup_order (C : ECtx) (n : Nat) (home : Val) (active : List String) (fs : List Field) (sep : String)
    (h : active.contains (pathString fs sep) = false) :
    resolveRef C (n + 1) home active fs sep =
      lookupTrees C n (pathString fs sep :: active) fs (home :: C.opts.env.reverse) := by
  rw [resolveRef]
  simp only [h, Bool.false_eq_true, if_false]

/-- without any resolver a name that no tree defines stays unresolved: an error, never "" -/
theorem unresolved_is_error (C : ECtx) (key : String) (h : C.opts.resolvers = []) :
    resolveEnv C key = .error errMissingRaw := by
  simp [resolveEnv, h, resolveEnv.go]

/-- resolvers are consulted most recently added first: the last one that knows the name answers -/
theorem resolver_last_wins (C : ECtx) (rs : List Resolver) (r : Resolver) (key k : String) (v : String) (cfg : ParseCfg)
    (hr : C.opts.resolvers = rs ++ [r]) (hk : r.table.find? (·.1 == key) = some (k, v, cfg)) :
    resolveEnv C key = .ok (v, cfg) := by
  simp [resolveEnv, hr, resolveEnv.go, hk]

theorem bind_apply {α β : Type} {x : EM α} {f : α → EM β} {c c' : Cache} {a : α} (h : x c = (.ok a, c')) :
    (x >>= f) c = f a c' := by
  show EM.bind x f c = _
  rw [EM.bind, h]

theorem attempt_apply {α : Type} {x : EM α} {c c' : Cache} {a : α} (h : x c = (.ok a, c')) :
    EM.attempt x c = (.ok (.ok a), c') := by
  rw [EM.attempt, h]

/-- a setting that is exactly one reference takes the referenced value as it is (with its type):
the found value is returned, not its text -/
theorem single_ref_keeps_value (C : ECtx) (n : Nat) (home : Val) (here active : List String)
    (fs : List Field) (sep : String) (f : Found) (cache cache' : Cache)
    (h : resolveRef C n home active fs sep cache = (.ok (.found f), cache')) :
    dynGet C (n + 1) home here active (.ref fs sep) cache = (.ok (f, pathString fs sep :: active), cache') := by
  rw [dynGet, bind_apply h]
  rfl

example : WellNested 0 [.opn, .str "a", .sep ":", .str "d", .cls] := by simp [WellNested]
example : ¬ WellNested 0 [.cls] := by simp [WellNested]

end Ucfg.C02

namespace Ucfg.C02
open Ucfg

/-! ### the operator table (`${name:default}`, `${name:+alt}`, `${name:?msg}`)

Stated relative to what looking the name up does (`refEval` / `refResolve` at the fuel the operator gives it), on any
cache: the operator adds exactly the documented choice and nothing else.  One equation per operator, for any name
expression that has evaluated to non-empty text; the table for a constant name is read off them.  Fuel: `evalExpr` at
`m+2` spends one unit on the operator and runs the name, the lookup and `r` at `m+1` - not `m`, so that a constant
name has the unit it spends itself (`const_eval`). -/

/-- the path an operator looks up once its name has evaluated to `nm` -/
def opPath (C : ECtx) (nm sep : String) : List Field :=
  parsePath nm sep C.opts.maxIdx C.opts.enableNumKeys C.opts.escapePath

theorem em_pure {α : Type} (a : α) (c : Cache) : (pure a : EM α) c = (.ok a, c) := rfl

theorem const_eval {C : ECtx} {m : Nat} {home : Val} {active : List String} {nm : String} {c : Cache} :
    evalExpr C (m+1) home active (.const nm) c = (.ok nm, c) := by
  rw [evalExpr]; rfl

section
variable {C : ECtx} {m : Nat} {home : Val} {active : List String} {l : Expr} {nm : String} {c c0 : Cache}
  (r : Expr) (sep : String) (hl : evalExpr C (m+1) home active l c = (.ok nm, c0)) (hnm : (nm == "") = false)
include hl hnm

/-- `${l:r}`: the value of the name, unless looking it up fails or gives "": then the default, evaluated on the cache
the attempt left -/
theorem dflt_eq :
    evalExpr C (m+2) home active (.dflt l r sep) c =
      match refEval C (m+1) home active (opPath C nm sep) sep c0 with
      | (.ok v, c1) => if v == "" then evalExpr C (m+1) home active r c1 else (.ok v, c1)
      | (.err _, c1) => evalExpr C (m+1) home active r c1
      | (.panic s, c1) => (.panic s, c1)
      | (.fuel, c1) => (.fuel, c1) := by
  rw [evalExpr, bind_apply (attempt_apply hl)]
  dsimp only
  rw [hnm]
  show EM.bind (EM.attempt (refEval C (m+1) home active (opPath C nm sep) sep)) _ c0 = _
  unfold EM.bind EM.attempt
  generalize refEval C (m+1) home active _ sep c0 = res
  obtain ⟨o, c1⟩ := res
  cases o <;> try rfl
  dsimp only
  split <;> rfl

/-- `${l:+r}`: the alternative when the name is set, "" when it is not or looking it up fails -/
theorem alt_eq :
    evalExpr C (m+2) home active (.alt l r sep) c =
      match refResolve C (m+1) home active (opPath C nm sep) sep c0 with
      | (.ok (some _), c1) => evalExpr C (m+1) home active r c1
      | (.ok none, c1) => (.ok "", c1)
      | (.err _, c1) => (.ok "", c1)
      | (.panic s, c1) => (.panic s, c1)
      | (.fuel, c1) => (.fuel, c1) := by
  rw [evalExpr, bind_apply (attempt_apply hl)]
  dsimp only
  rw [hnm]
  show EM.bind (EM.attempt (refResolve C (m+1) home active (opPath C nm sep) sep)) _ c0 = _
  unfold EM.bind EM.attempt
  generalize refResolve C (m+1) home active _ sep c0 = res
  obtain ⟨o, c1⟩ := res
  cases o <;> try rfl
  rename_i f
  cases f <;> rfl

/-- `${l:?r}`: the value of the name, unless looking it up fails or gives "": then an error carrying the evaluated
message -/
theorem errx_eq :
    evalExpr C (m+2) home active (.errx l r sep) c =
      let raise : EM String := do
        let msg ← evalExpr C (m+1) home active r
        EM.fail { reason := .other, typed := false, msg := some msg }
      match refEval C (m+1) home active (opPath C nm sep) sep c0 with
      | (.ok v, c1) => if v == "" then raise c1 else (.ok v, c1)
      | (.err _, c1) => raise c1
      | (.panic s, c1) => (.panic s, c1)
      | (.fuel, c1) => (.fuel, c1) := by
  rw [evalExpr, bind_apply (attempt_apply hl)]
  dsimp only
  rw [hnm]
  show EM.bind (EM.bind (EM.attempt (refEval C (m+1) home active (opPath C nm sep) sep)) _) _ c0 = _
  unfold EM.bind EM.attempt
  generalize refEval C (m+1) home active _ sep c0 = res
  obtain ⟨o, c1⟩ := res
  cases o <;> try rfl
  rename_i v
  cases hv : v == "" <;> simp only [hv, Bool.false_eq_true, if_false, if_true] <;> rfl

end

/-- `${name:default}`: a name that resolves to non-empty text is that text -/
theorem default_keeps_value (C : ECtx) (m : Nat) (home : Val) (active : List String) (nm sep : String) (r : Expr)
    (c c1 : Cache) (v : String) (hnm : (nm == "") = false) (hv : (v == "") = false)
    (h : refEval C (m+1) home active (opPath C nm sep) sep c = (.ok v, c1)) :
    evalExpr C (m+2) home active (.dflt (.const nm) r sep) c = (.ok v, c1) := by
  rw [dflt_eq r sep const_eval hnm, h]
  exact if_neg (by simp [hv])

/-- `${name:default}`: a name whose lookup fails gives the default (evaluated on the cache the attempt left) -/
theorem default_used_when_lookup_fails (C : ECtx) (m : Nat) (home : Val) (active : List String) (nm sep : String) (r : Expr)
    (c c1 : Cache) (e : Err) (hnm : (nm == "") = false)
    (h : refEval C (m+1) home active (opPath C nm sep) sep c = (.err e, c1)) :
    evalExpr C (m+2) home active (.dflt (.const nm) r sep) c = evalExpr C (m+1) home active r c1 := by
  rw [dflt_eq r sep const_eval hnm, h]

/-- `${name:default}`: a name that resolves to the empty string gives the default -/
theorem default_used_when_empty (C : ECtx) (m : Nat) (home : Val) (active : List String) (nm sep : String) (r : Expr)
    (c c1 : Cache) (hnm : (nm == "") = false)
    (h : refEval C (m+1) home active (opPath C nm sep) sep c = (.ok "", c1)) :
    evalExpr C (m+2) home active (.dflt (.const nm) r sep) c = evalExpr C (m+1) home active r c1 := by
  rw [dflt_eq r sep const_eval hnm, h]
  rfl

/-- `${name:+alt}`: when the name is set (its lookup finds something) the alternative is evaluated ... -/
theorem alternative_when_set (C : ECtx) (m : Nat) (home : Val) (active : List String) (nm sep : String) (r : Expr)
    (c c1 : Cache) (f : Found) (hnm : (nm == "") = false)
    (h : refResolve C (m+1) home active (opPath C nm sep) sep c = (.ok (some f), c1)) :
    evalExpr C (m+2) home active (.alt (.const nm) r sep) c = evalExpr C (m+1) home active r c1 := by
  rw [alt_eq r sep const_eval hnm, h]

/-- ... and when it is not set, or looking it up fails, the result is the empty string -/
theorem alternative_when_unset (C : ECtx) (m : Nat) (home : Val) (active : List String) (nm sep : String) (r : Expr)
    (c c1 : Cache) (hnm : (nm == "") = false)
    (h : refResolve C (m+1) home active (opPath C nm sep) sep c = (.ok none, c1) ∨
         ∃ e, refResolve C (m+1) home active (opPath C nm sep) sep c = (.err e, c1)) :
    evalExpr C (m+2) home active (.alt (.const nm) r sep) c = (.ok "", c1) := by
  rw [alt_eq r sep const_eval hnm]
  obtain h | ⟨e, h⟩ := h <;> rw [h]

/-- `${name:?msg}`: a name that resolves to non-empty text is that text -/
theorem required_keeps_value (C : ECtx) (m : Nat) (home : Val) (active : List String) (nm sep : String) (r : Expr)
    (c c1 : Cache) (v : String) (hnm : (nm == "") = false) (hv : (v == "") = false)
    (h : refEval C (m+1) home active (opPath C nm sep) sep c = (.ok v, c1)) :
    evalExpr C (m+2) home active (.errx (.const nm) r sep) c = (.ok v, c1) := by
  rw [errx_eq r sep const_eval hnm, h]
  exact if_neg (by simp [hv])

/-- `${name:?msg}`: a name whose lookup fails is an error carrying the evaluated message -/
theorem required_raises_message (C : ECtx) (m : Nat) (home : Val) (active : List String) (nm sep : String) (r : Expr)
    (c c1 c2 : Cache) (e : Err) (msg : String) (hnm : (nm == "") = false)
    (h : refEval C (m+1) home active (opPath C nm sep) sep c = (.err e, c1))
    (hm : evalExpr C (m+1) home active r c1 = (.ok msg, c2)) :
    evalExpr C (m+2) home active (.errx (.const nm) r sep) c =
      (.err { reason := .other, typed := false, msg := some msg }, c2) := by
  rw [errx_eq r sep const_eval hnm, h]
  simp only [bind, EM.bind, hm, EM.fail]

end Ucfg.C02
