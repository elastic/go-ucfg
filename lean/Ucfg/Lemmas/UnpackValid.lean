import Ucfg.Lemmas.UnpackSteps
import Ucfg.Lemmas.AList
/-
  Lemmas for the nested lift of C04: what the typed Unpack model returns passes the recursive validation
  (`recValidate`, the transcription of tryRecursiveValidate), for target types built from primitive kinds,
  structs (without inline fields), pointers, slices, fixed-size arrays and maps, nested to any depth.
-/
namespace Ucfg
open Outcome

mutual
/-- primitive kinds, structs without inline fields, pointers, slices, arrays and maps of such -/
def Ty.plain : Ty → Bool
  | .prim _ => true
  | .ptr t => t.plain
  | .slice t => t.plain
  | .array _ t => t.plain
  | .map t => t.plain
  | .strct fs => plainFields fs
  | _ => false
def plainFields : List (String × String × String × Ty) → Bool
  | [] => true
  | (_, tag, _, t) :: r => !(parseTags tag).2.squash && t.plain && plainFields r
end

def keysBelow (k : String) (m : List (String × GoVal)) : Bool := m.all (fun e => decide (k < e.1))

/-- the entries of a map value are kept sorted by key, without duplicates (the canonical form of a Go map) -/
def keysSorted : List (String × GoVal) → Bool
  | [] => true
  | (k, _) :: r => keysBelow k r && keysSorted r

mutual
/-- the value has the shape of the type (what reflect guarantees for a Go value of that type) -/
def fits : Ty → GoVal → Bool
  | .prim _, .scalar _ => true
  | .ptr _, .ptr none => true
  | .ptr t, .ptr (some x) => fits t x
  | .slice _, .slice none => true
  | .slice t, .slice (some l) => fitsAll t l
  | .array _ t, .array l => fitsAll t l
  | .map _, .map none => true
  | .map t, .map (some m) => fitsVals t m && keysSorted m
  | .strct fs, .strct xs => fitsFields fs xs
  | _, _ => false
def fitsVals : Ty → List (String × GoVal) → Bool
  | _, [] => true
  | t, (_, x) :: r => fits t x && fitsVals t r
def fitsAll : Ty → List GoVal → Bool
  | _, [] => true
  | t, x :: r => fits t x && fitsAll t r
def fitsFields : List (String × String × String × Ty) → List GoVal → Bool
  | [], [] => true
  | (_, _, _, t) :: fr, x :: xr => fits t x && fitsFields fr xr
  | _, _ => false
end

def Ty.isMap : Ty → Bool
  | .map _ => true
  | _ => false

theorem runValidators_eq_none {std : Stdlib} {vs : List VTag} {v : GoVal} :
    runValidators std vs v = none ↔ ∀ t ∈ vs, runValidator std t v = none :=
  List.findSome?_eq_none_iff

theorem ite_eq_of {α : Type} {c : Prop} [Decidable c] {a b x : α} (ha : a = x) (hb : b = x) : ite c a b = x := by
  split <;> assumption

theorem runValidator_eq_none {std : Stdlib} {t : VTag} {v : GoVal} (h1 : validateNonZero v = none)
    (h2 : validatePositive v = none) (h3 : ∀ b, validateBound std b v t.param = none) (h4 : validateRequired v = none) :
    runValidator std t v = none :=
  ite_eq_of h1 (ite_eq_of h2 (ite_eq_of (h3 _) (ite_eq_of (h3 _) (ite_eq_of h4 rfl))))

theorem runValidators_strct (std : Stdlib) (vs : List VTag) (xs : List GoVal) :
    runValidators std vs (.strct xs) = none :=
  runValidators_eq_none.2 fun _ _ => runValidator_eq_none rfl rfl (fun _ => rfl) rfl

theorem runValidators_nil (std : Stdlib) (v : GoVal) : runValidators std [] v = none := rfl

/-- `nonzero` is the one validator that looks through a non-nil pointer: at the number its chain ends in, if it does -/
theorem validateNonZero_ptr (x : GoVal) :
    validateNonZero (.ptr (some x)) = (isZeroNum x.chase).bind fun z => if z then some .zero else none := by
  unfold validateNonZero
  cases h : isZeroNum x.chase <;> simp [GoVal.isNilIface, GoVal.chase, h, validateNonEmpty]

theorem runValidator_ptr (std : Stdlib) (t : VTag) (x : GoVal) :
    runValidator std t (.ptr (some x)) = if t.name == "nonzero" then validateNonZero (.ptr (some x)) else none :=
  ite_congr rfl (fun _ => rfl) fun _ => ite_eq_of rfl (ite_eq_of rfl (ite_eq_of rfl (ite_eq_of rfl rfl)))

theorem validateNonZero_of_num {x : GoVal} {z : Bool} (hz : isZeroNum x.chase = some z) :
    validateNonZero x = if z then some .zero else none := by
  unfold validateNonZero
  -- a nil interface is no number
  have hni : ¬ x.isNilIface = true := fun h => by
    cases x with
    | iface d => cases d with
      | none => cases hz
      | some _ => cases h
    | _ => cases h
  rw [if_neg hni]
  split
  · cases hz; rfl
  · rw [hz]

/-- the validators look through a non-nil pointer only for `nonzero`, which then decides by the number the pointee decides by -/
theorem runValidators_ptr_some (std : Stdlib) (vs : List VTag) (x : GoVal) (h : runValidators std vs x = none) :
    runValidators std vs (.ptr (some x)) = none := by
  refine runValidators_eq_none.2 fun t ht => ?_
  have hx := runValidators_eq_none.1 h t ht
  rw [runValidator_ptr]
  split
  · unfold runValidator at hx
    rw [if_pos ‹_›] at hx
    rw [validateNonZero_ptr]
    cases hz : isZeroNum x.chase with
    | none => rfl
    | some z => exact (validateNonZero_of_num hz).symm.trans hx
  · rfl

theorem runValidators_ptr_nonnum (std : Stdlib) (vs : List VTag) (x : GoVal) (hx : isZeroNum x.chase = none) :
    runValidators std vs (.ptr (some x)) = none :=
  runValidators_eq_none.2 fun t _ => by rw [runValidator_ptr, validateNonZero_ptr, hx]; split <;> rfl

theorem recValidate_eq (std : Stdlib) (o : Opts) (ty : Ty) (vs : List VTag) (v : GoVal) :
    recValidate std o ty vs v = (runValidators std vs v).or (recValidate std o ty [] v) := by
  conv => lhs; unfold recValidate
  conv => rhs; unfold recValidate
  cases runValidators std vs v <;> rfl

theorem recValidate_split (std : Stdlib) (o : Opts) (ty : Ty) (vs : List VTag) (v : GoVal) :
    recValidate std o ty vs v = none ↔ (runValidators std vs v = none ∧ recValidate std o ty [] v = none) := by
  rw [recValidate_eq, Option.or_eq_none_iff]

theorem recValidate_ptr_none (std : Stdlib) (o : Opts) (t : Ty) : recValidate std o (.ptr t) [] (.ptr none) = none :=
  rfl

theorem recValidate_ptr_some (std : Stdlib) (o : Opts) (t : Ty) (x : GoVal) :
    recValidate std o (.ptr t) [] (.ptr (some x)) = recValidate std o t [] x :=
  rfl

theorem recValidate_strct (std : Stdlib) (o : Opts) (fs : List (String × String × String × Ty)) (xs : List GoVal) :
    recValidate std o (.strct fs) [] (.strct xs) = recValidateFields std o fs xs :=
  rfl

theorem recValidate_slice (std : Stdlib) (o : Opts) (t : Ty) (l : List GoVal) :
    recValidate std o (.slice t) [] (.slice (some l)) = recValidateList std o t l :=
  rfl

theorem recValidate_slice_none (std : Stdlib) (o : Opts) (t : Ty) :
    recValidate std o (.slice t) [] (.slice none) = none :=
  rfl

theorem recValidate_array (std : Stdlib) (o : Opts) (n : Nat) (t : Ty) (l : List GoVal) :
    recValidate std o (.array n t) [] (.array l) = recValidateList std o t l :=
  rfl

theorem recValidate_map (std : Stdlib) (o : Opts) (t : Ty) (m : List (String × GoVal)) :
    recValidate std o (.map t) [] (.map (some m)) = recValidateMap std o t m :=
  rfl

theorem recValidateList_nil (std : Stdlib) (o : Opts) (t : Ty) : recValidateList std o t [] = none :=
  rfl

theorem recValidateList_cons (std : Stdlib) (o : Opts) (t : Ty) (x : GoVal) (r : List GoVal) :
    recValidateList std o t (x :: r) = none ↔ (recValidate std o t [] x = none ∧ recValidateList std o t r = none) := by
  conv => lhs; unfold recValidateList
  cases recValidate std o t [] x <;> simp

theorem recValidateList_all (std : Stdlib) (o : Opts) (t : Ty) (l : List GoVal) :
    recValidateList std o t l = none ↔ ∀ x ∈ l, recValidate std o t [] x = none := by
  induction l with
  | nil => simp [recValidateList_nil]
  | cons x r ih =>
    rw [recValidateList_cons, ih, List.forall_mem_cons]

/-- accessField does not depend on the options: the policy it takes is the tag's whether or not it differs from the option's
(`if tag != opt then tag else opt`) -/
theorem accessField_opts (o o' : Opts) (g tag vtag : String) : accessField o g tag vtag = accessField o' g tag vtag := by
  have pol (a b : Handling) : (if a != b then a else b) = a := by
    split
    · rfl
    · exact (by simpa using ‹¬ (a != b) = true› : a = b).symm
  unfold accessField
  simp only [pol]

theorem recValidateList_congr (std : Stdlib) (o o' : Opts) (t : Ty)
    (h : ∀ x, recValidate std o t [] x = recValidate std o' t [] x) :
    ∀ l, recValidateList std o t l = recValidateList std o' t l
  | [] => rfl
  | x :: r => by unfold recValidateList; rw [h x, recValidateList_congr std o o' t h r]

theorem recValidateMap_congr (std : Stdlib) (o o' : Opts) (t : Ty)
    (h : ∀ x, recValidate std o t [] x = recValidate std o' t [] x) :
    ∀ m, recValidateMap std o t m = recValidateMap std o' t m
  | [] => rfl
  | (k, x) :: r => by unfold recValidateMap; rw [h x, recValidateMap_congr std o o' t h r]

/-- the validators of the slot do not see the options: what is left to compare is the validation of the parts -/
theorem recValidate_opts_of_parts {std : Stdlib} {o o' : Opts} {ty : Ty} {v : GoVal} (vs : List VTag)
    (h : recValidate std o ty [] v = recValidate std o' ty [] v) :
    recValidate std o ty vs v = recValidate std o' ty vs v := by
  rw [recValidate_eq std o, recValidate_eq std o', h]

mutual
theorem recValidate_opts (std : Stdlib) (o o' : Opts) : ∀ (ty : Ty) (vs : List VTag) (v : GoVal),
    recValidate std o ty vs v = recValidate std o' ty vs v
  | .ptr t => fun vs v => recValidate_opts_of_parts vs <| by
    -- unfolded first, here and below: left to the unifier the equation of the mutual `recValidate` is dear to check
    unfold recValidate
    cases v with
    | ptr p => cases p with
      | none => rfl
      | some x => exact recValidate_opts std o o' t [] x
    | _ => rfl
  | .strct fs => fun vs v => recValidate_opts_of_parts vs <| by
    unfold recValidate
    cases v with
    | strct xs => exact recValidateFields_opts std o o' fs xs
    | _ => rfl
  | .map t => fun vs v => recValidate_opts_of_parts vs <| by
    unfold recValidate
    cases v with
    | map m => cases m with
      | none => rfl
      | some m => exact recValidateMap_congr std o o' t (recValidate_opts std o o' t []) m
    | _ => rfl
  | .slice t => fun vs v => recValidate_opts_of_parts vs <| by
    unfold recValidate
    cases v with
    | slice l => cases l with
      | none => rfl
      | some l => exact recValidateList_congr std o o' t (recValidate_opts std o o' t []) l
    | _ => rfl
  | .array n t => fun vs v => recValidate_opts_of_parts vs <| by
    unfold recValidate
    cases v with
    | array l => exact recValidateList_congr std o o' t (recValidate_opts std o o' t []) l
    | _ => rfl
  | .prim _ | .regexp | .iface | .config | .unsupported | .badmap => by
    intro vs v
    unfold recValidate
    cases runValidators std vs v <;> rfl
theorem recValidateFields_opts (std : Stdlib) (o o' : Opts) : ∀ (fs : List (String × String × String × Ty)) (xs : List GoVal),
    recValidateFields std o fs xs = recValidateFields std o' fs xs
  | [], xs => by unfold recValidateFields; rfl
  | (g, tag, vtag, t) :: fr, [] => by unfold recValidateFields; rfl
  | (g, tag, vtag, t) :: fr, x :: xr => by
    unfold recValidateFields
    rw [accessField_opts o o' g tag vtag]
    split
    · rw [recValidate_opts std o o' t _ x, recValidateFields_opts std o o' fr xr]
    · exact recValidateFields_opts std o o' fr xr
    · rfl
end

theorem fitsAll_replicate (t : Ty) (x : GoVal) (h : fits t x = true) : ∀ n, fitsAll t (List.replicate n x) = true := by
  intro n
  induction n with
  | zero => simp [fitsAll]
  | succ k ih => simp [List.replicate_succ, fitsAll, h, ih]

theorem fitsAll_all (t : Ty) (l : List GoVal) : fitsAll t l = true ↔ ∀ x ∈ l, fits t x = true := by
  induction l with
  | nil => simp [fitsAll]
  | cons x r ih => unfold fitsAll; rw [Bool.and_eq_true, ih, List.forall_mem_cons]

mutual
theorem fits_zeroOf : ∀ (t : Ty), t.plain = true → fits t (zeroOf t) = true
  | .prim k => by cases k <;> exact fun _ => rfl
  | .ptr _ | .slice _ | .map _ => fun _ => rfl
  | .array n t => fun h => fitsAll_replicate t _ (fits_zeroOf t h) n
  | .strct fs => fitsFields_zero fs
  | .regexp | .iface | .config | .unsupported | .badmap => nofun
theorem fitsFields_zero : ∀ (fs : List (String × String × String × Ty)), plainFields fs = true →
    fitsFields fs (zeroFields fs) = true
  | [], _ => rfl
  | (g, tag, vtag, t) :: r, h => by
    have h : (!(parseTags tag).2.squash && t.plain && plainFields r) = true := h
    simp only [Bool.and_eq_true] at h
    exact Bool.and_eq_true_iff.mpr ⟨fits_zeroOf t h.1.2, fitsFields_zero r h.2⟩
end

theorem fitsVals_all (t : Ty) (m : List (String × GoVal)) : fitsVals t m = true ↔ ∀ e ∈ m, fits t e.2 = true := by
  induction m with
  | nil => simp [fitsVals]
  | cons e r ih =>
    obtain ⟨k, x⟩ := e
    unfold fitsVals
    rw [Bool.and_eq_true, ih, List.forall_mem_cons]

theorem recValidateMap_all (std : Stdlib) (o : Opts) (t : Ty) (m : List (String × GoVal)) :
    recValidateMap std o t m = none ↔ ∀ e ∈ m, recValidate std o t [] e.2 = none := by
  induction m with
  | nil => unfold recValidateMap; simp
  | cons e r ih =>
    obtain ⟨k, x⟩ := e
    unfold recValidateMap
    cases h : recValidate std o t [] x with
    | some err => exact ⟨nofun, fun hall => h.symm.trans (hall _ List.mem_cons_self)⟩
    | none => rw [ih, List.forall_mem_cons]; exact (and_iff_right h).symm

theorem gmapSet_eq_ains (m : List (String × GoVal)) (k : String) (v : GoVal) : gmapSet m k v = ains m k v := by
  induction m with
  | nil => rfl
  | cons e r ih => simp only [gmapSet, ains, ih]

theorem keysSorted_iff (m : List (String × GoVal)) : keysSorted m = true ↔ KeysSorted m := by
  induction m with
  | nil => simp [keysSorted, KeysSorted]
  | cons e r ih => simp [keysSorted, keysBelow, ih, KeysSorted, List.pairwise_cons]

theorem mem_gmapSet (m : List (String × GoVal)) (k : String) (v : GoVal) (hs : keysSorted m = true) :
    ∀ e, e ∈ gmapSet m k v → e = (k, v) ∨ (e ∈ m ∧ e.1 ≠ k) :=
  fun _ he => mem_ains ((keysSorted_iff m).1 hs) (gmapSet_eq_ains m k v ▸ he)

theorem gmapSet_sorted (m : List (String × GoVal)) (k : String) (v : GoVal) (hs : keysSorted m = true) :
    keysSorted (gmapSet m k v) = true := by
  rw [gmapSet_eq_ains, keysSorted_iff]
  exact ains_sorted k v ((keysSorted_iff m).1 hs)

theorem gmapGet_mem (m : List (String × GoVal)) (k : String) (old : GoVal) (h : gmapGet m k = some old) :
    ∃ e ∈ m, e.2 = old := by
  unfold gmapGet at h
  cases hf : m.find? (fun x => x.1 == k) with
  | none => rw [hf] at h; simp at h
  | some e =>
    rw [hf] at h
    simp only [Option.map_some, Option.some.injEq] at h
    exact ⟨e, List.mem_of_find?_eq_some hf, h⟩

theorem fits_iface_false (t : Ty) (d : Option Data) : fits t (.iface d) = false := by
  cases t <;> simp [fits]

end Ucfg
