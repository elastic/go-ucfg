import Ucfg.Model.Ops
import Ucfg.Lemmas.UnpackFails
/-
  C14 — every failure is a typed error that names the offending setting.

  In the model an error value records whether it is a `ucfg.Error` (`typed`); errors that the Go
  code returns unwrapped (strconv / fmt errors, the bare `ErrTypeMismatch` of value.toConfig) are
  built with `raiseRaw` and `typed := false`, so "is a ucfg.Error" is not true by typing.  Proved:
  at every API boundary of the model the error is typed.  That the message names the full dotted
  path of the offending setting is decided by the correspondence check (single injected fault,
  known path); the plain-tree model does not carry stored contexts.
-/
namespace Ucfg.C14
open Ucfg Outcome

theorem wrap_error_typed {α : Type} (x : Outcome α) (e : Err) (h : reifyPrim.wrap x = .err e) : e.typed = true := by
  cases x <;> simp [reifyPrim.wrap] at h
  subst h; rfl

theorem wrapConv_error_typed {α : Type} (x : Outcome α) (e : Err) (h : wrapConv x = .err e) : e.typed = true := by
  cases x <;> simp [wrapConv] at h
  subst h; rfl

/-- conversion failures of typed unpacking are wrapped (raiseConversion / raiseInvalidDuration) -/
theorem unpack_conversion_error_typed (std : Stdlib) (k : Kind) (p : Prim) (e : Err)
    (h : reifyPrim std k p = .err e) : e.typed = true := by
  cases k <;> exact wrap_error_typed _ e h

/-- the typed getters wrap conversion failures (convertErr) -/
theorem getter_error_typed (std : Stdlib) (k : GetKind) (v : Val) (e : Err) (hnd : ∀ i ex, v ≠ .dyn i ex)
    (h : getPrim std k v = .err e) : e.typed = true := by
  cases v with
  | dyn i ex => exact absurd rfl (hnd i ex)
  | sub d a hd ha => simp [getPrim] at h; subst h; rfl
  | prim p =>
    cases k <;> exact wrapConv_error_typed _ e h

/-- errors have to be `ucfg.Error`s; panics are not this property's business -/
def typedSpec : FailSpec := ⟨fun e => e.typed = true, fun _ => True⟩

/-- a validator failure is reported as a typed error whose reason is the validator's -/
theorem validation_error_typed {α : Type} (ve : VErr) (e : Err)
    (h : (raiseValidation ve : Outcome α) = .err e) : e.typed = true ∧ e.reason = ve.reason := by
  simp [raiseValidation] at h; subst h; exact ⟨rfl, rfl⟩

/-! `Typed x`: if `x` is an error, it is a `ucfg.Error`.  As a condition on the failures of a call (`typedSpec`) it is carried
through the eight mutually recursive functions of the typed unpacker by `Lemmas/UnpackFails.lean`, for every target type
that does not contain `interface{}` (the generic `reify` of the reference-free model marks references with an untyped
error, which is the one place the model itself is outside its domain). -/

def Typed {α : Type} (x : Outcome α) : Prop := ∀ e, x = .err e → e.typed = true

theorem typed_iff_fails {α : Type} {x : Outcome α} : Typed x ↔ x.Fails typedSpec := by
  cases x <;> simp [Typed, Fails, typedSpec]

theorem typed_raiseValidation {α : Type} (ve : VErr) : Typed (raiseValidation ve : Outcome α) := by
  intro e h; exact (validation_error_typed ve e h).1

theorem typed_of_not_err {α : Type} (x : Outcome α) (h : ∀ e, x = .err e → False) : Typed x := by
  intro e he; exact (h e he).elim

/-- looking a field up fails only with typed errors (ErrMissing / ErrExpectedObject) -/
theorem fieldGet_error_typed (f : Field) (v : Val) (e : Err) (h : fieldGet tcPlain f v = .err e) : e.typed = true :=
  typed_iff_fails.2 (fieldGet_fails (fun _ h => h) f v) e h

/-- writes fail only with typed errors (ErrExpectedObject / ErrIndexOutOfRange) -/
theorem fieldSet_error_typed (o : Opts) (f : Field) (node v : Val) (e : Err)
    (h : fieldSet o f node v = .err e) : e.typed = true :=
  typed_iff_fails.2 (fieldSet_fails (fun _ h => h) o f node v (.inr fun _ => trivial)) e h

/-- looking a setting up fails only with typed errors (ErrMissing / ErrExpectedObject) -/
theorem typed_pathGet : ∀ (p : List Field) (cur : Val), Typed (pathGet tcPlain p cur)
  | [], _ => by intro e h; cases h
  | f :: r, cur => typed_iff_fails.2 (pathGet_fails (fun _ h => h) (f :: r) cur (List.cons_ne_nil f r))

/-- the calls the unpacker hands errors on from raise typed ones; `interface{}` is left out -/
theorem typedLeaves : Leaves typedSpec False :=
  ⟨fun _ h => h, False.elim⟩

theorem typed_accessField (o : Opts) (g tag vtag : String) : Typed (accessField o g tag vtag) :=
  typed_iff_fails.2 (accessField_fails typedLeaves.typed ..)

theorem typed_reifyPrimitiveT (std : Stdlib) (fo : FOpts) (ty : Ty) (v : Val) : Typed (reifyPrimitiveT std fo ty v) :=
  typed_iff_fails.2 (reifyPrimitiveT_fails typedLeaves.typed ..)

structure TClaims (std : Stdlib) (n : Nat) : Prop where
  merge : ∀ (fo : FOpts) (ty : Ty) (old : GoVal) (v : Val), ty.noIface = true → Typed (mergeValue std n fo ty old v)
  reify : ∀ (fo : FOpts) (ty : Ty) (v : Val), ty.noIface = true → Typed (reifyValue std n fo ty v)
  strct : ∀ (o : Opts) (fs : List (String × String × String × Ty)) (xs : List GoVal) (cfg : Val), noIfaceFields fs = true →
    Typed (reifyStructT std n o fs xs cfg)
  getf : ∀ (fo : FOpts) (t : Ty) (x : GoVal) (cfg : Val) (name : String), t.noIface = true →
    Typed (getField' std n fo t x cfg name)
  slice : ∀ (fo : FOpts) (t : Ty) (old : Option (List GoVal)) (v : Val), t.noIface = true →
    Typed (sliceMerge std n fo t old v)
  arr : ∀ (fo : FOpts) (t : Ty) (start : Nat) (xs : List GoVal) (vs : List Val), t.noIface = true →
    Typed (doArray std n fo t start xs vs)
  mapc : ∀ (o : Opts) (vs : List VTag) (t : Ty) (m0 : Option (List (String × GoVal))) (sub : Val), t.noIface = true →
    Typed (reifyMapT std n o vs t m0 sub)
  ents : ∀ (o : Opts) (t : Ty) (m : List (String × GoVal)) (d : List (String × Val)), t.noIface = true →
    Typed (mapEntries std n o t m d)

theorem tclaims (std : Stdlib) : ∀ n, TClaims std n := by
  intro n
  have C := failClaims (std := std) typedLeaves n
  exact ⟨fun _ _ _ _ h => typed_iff_fails.2 (C.merge (.inl h)),
    fun _ _ _ h => typed_iff_fails.2 (C.reify (.inl h)),
    fun _ _ _ _ h => typed_iff_fails.2 (C.strct (.inl h)),
    fun _ _ _ _ _ h => typed_iff_fails.2 (C.getf (.inl h)),
    fun _ _ _ _ h => typed_iff_fails.2 (C.slice (.inl h)),
    fun _ _ _ _ _ h => typed_iff_fails.2 (C.arr (.inl h)),
    fun _ _ _ _ _ h => typed_iff_fails.2 (C.mapc (.inl h)),
    fun _ _ _ _ h => typed_iff_fails.2 (C.ents (.inl h))⟩

/-- **C14, lifted.** Whatever the target type (anything without `interface{}`: structs with any tags incl. inline, pointers,
slices, arrays, maps, regexp, Config, unsupported kinds), the pre-filled value, the options and the configuration:
when `Unpack` fails, the error is a `ucfg.Error`. -/
theorem unpack_error_typed (std : Stdlib) (o : Opts) : ∀ (ty : Ty) (old : GoVal) (cfg : Val), ty.noIface = true →
    Typed (unpack std o ty old cfg) :=
  fun ty old cfg h => typed_iff_fails.2 (unpack_fails typedLeaves o ty old cfg (.inl h))

/-- in the words of the statement: an error that comes back is typed -/
theorem unpack_failure_is_ucfg_error (std : Stdlib) (o : Opts) (ty : Ty) (old : GoVal) (cfg : Val) (e : Err)
    (hty : ty.noIface = true) (h : unpack std o ty old cfg = .err e) : e.typed = true :=
  unpack_error_typed std o ty old cfg hty e h

example : (reifyPrim default (.int 8) (.int 300)).isErr = true := by decide +kernel
example : (fieldGet tcPlain (.named "a") (.prim (.int 1))).isErr = true := by decide +kernel
example : (Ty.strct [("A", "a", "min=1", .ptr (.map (.slice (.prim (.int 64))))), ("R", "r,inline", "", .regexp)]).noIface = true := by decide +kernel

end Ucfg.C14
