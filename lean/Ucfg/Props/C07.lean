import Ucfg.Props.C17
import Ucfg.Props.C02
import Ucfg.Lemmas.UnpackFails
import Ucfg.Model.Forest
import Ucfg.Lemmas.ForestAcyclic
import Ucfg.Lemmas.ForestBuild
/-
  C07 — no input makes the library panic, hang or allocate without bound.

  In the model every Go operation that can panic (`s[i]`, `s[i:j]`, stack tops, explicit
  `panic`) is a checked operation returning `Outcome.panic`; nothing is totalised.  The theorems
  say that result is unreachable.  They are stated against the guards regenerated from the
  source (Extracted.guard_*), so removing a bounds check in path.go / ucfg.go breaks them.
  PARTIAL by nature: the bytes -> generic value decoders (yaml.v2, encoding/json, hjson-go), the
  goroutine mechanics of the lexer and the runtime's allocator are not modelled: for those the
  harness evidence (no panic / fatal / leaked goroutine on generated byte strings) is exploration.
  A fact proved in another file (`C17.value_never_panics`, `C02.parseSplice_never_panics`, `parsePath_ne_nil`) is given
  a name here as well, because the audit of a property (`bin/check`: `audit` in vlib/engine.py) lists the theorems of
  `Props/<ID>.lean` and nothing else; the same holds in the other Props files.
-/
namespace Ucfg.C07
open Ucfg Outcome

/-- parse.Value / ValueWithConfig never panics (every string, every parse.Config) -/
theorem parse_value_never_panics (std : Stdlib) (s : String) (cfg : ParseCfg) :
    (Parse.valueWithConfig std s cfg).isPanic = false := C17.value_never_panics std s cfg

/-- the `${…}` syntax of any setting never panics the parser -/
theorem varexp_parse_never_panics (s : String) (c : VarCfg) : (parseSplice s c).isPanic = false :=
  C02.parseSplice_never_panics s c

theorem idxGet_guard_iff (i len : Int) :
    Extracted.guard_idxGet_missing i len = false ↔ (0 ≤ i ∧ i < len) := by
  simp [Extracted.guard_idxGet_missing]

theorem idxSet_guard_iff (i m : Int) :
    Extracted.guard_idxSet_reject i m = false ↔ (0 ≤ i ∧ i ≤ m) := by
  simp [Extracted.guard_idxSet_reject]

theorem delAt_guard_iff (i len : Int) :
    Extracted.guard_delAt_reject i len = false ↔ (0 ≤ i ∧ i < len) := by
  simp [Extracted.guard_delAt_reject]

/-- reading any field — any name, any index, negative and huge ones included — never indexes
out of range -/
theorem fieldGet_never_panics (f : Field) (v : Val) : (fieldGet tcPlain f v).isPanic = false :=
  isPanic_iff_fails.2 (fieldGet_fails (fun _ _ => trivial) f v)

/-- writing at any index never panics and never allocates beyond MaxIdx+1 slots (as long as the
configured MaxIdx itself is below 2^32) -/
theorem fieldSet_never_panics (o : Opts) (f : Field) (node v : Val) (hm : o.maxIdx < hugeAlloc) :
    (fieldSet o f node v).isPanic = false :=
  isPanic_iff_fails.2 (fieldSet_fails (fun _ _ => trivial) o f node v (.inl hm))

/-- removing at any index never indexes out of range -/
theorem delAt_never_panics (a : List Val) (i : Int) : adelPanics a i = false := by
  unfold adelPanics
  by_cases hg : Extracted.guard_delAt_reject i a.length = true
  · simp [hg]
  · have hg' : Extracted.guard_delAt_reject i a.length = false := by simpa using hg
    have hb := (delAt_guard_iff i a.length).mp hg'
    simp only [hg', Bool.not_false, Bool.true_and, Bool.or_eq_false_iff, decide_eq_false_iff_not]
    omega

/-- a key or path of any shape parses to at least one field: cfgPath never indexes an empty path -/
theorem parsePath_nonempty (s sep : String) (m : Int) (enk esc : Bool) : parsePath s sep m enk esc ≠ [] :=
  parsePath_ne_nil s sep m enk esc

theorem parsePathIdx_nonempty (s : String) (idx : Int) (o : Opts) : parsePathIdx s idx o ≠ [] := by
  unfold parsePathIdx
  split
  · simp
  · split
    · simp
    · exact parsePath_nonempty _ _ _ _ _

/-! `NoPanic x`: `x` is not a Go panic.  Whole-path reads (`pathGet`, `pathHas`) and removals never panic for non-empty paths
(every path the API builds is non-empty: `parsePath_nonempty`), whole-path writes never panic below the allocation bound,
and neither does `unpack`, for every target type, pre-filled value, option set and configuration: as a condition on the
failures of a call (`errOnly`) "no panic" is carried through the typed unpacker by `Lemmas/UnpackFails.lean`. -/

def NoPanic {α : Type} (x : Outcome α) : Prop := ∀ s, x ≠ .panic s

theorem np_iff_fails {α : Type} {x : Outcome α} : NoPanic x ↔ x.Fails errOnly := by
  cases x <;> simp [NoPanic, Fails, errOnly]

theorem np_of_fails {α : Type} {x : Outcome α} (h : x.Fails errOnly) : NoPanic x := np_iff_fails.2 h

theorem np_raiseValidation {α : Type} (ve : VErr) : NoPanic (raiseValidation ve : Outcome α) := nofun
theorem np_bind {α β : Type} {x : Outcome α} {f : α → Outcome β} (hx : NoPanic x) (hf : ∀ a, NoPanic (f a)) :
    NoPanic (x >>= f) :=
  np_of_fails ((np_iff_fails.1 hx).bind fun a => np_iff_fails.1 (hf a))
theorem np_seq {α β : Type} (x : Outcome α) (y : Outcome β) (hx : NoPanic x) (hy : NoPanic y) : NoPanic (x *> y) :=
  np_bind hx fun _ => hy

theorem np_reifyPrim (std : Stdlib) (k : Kind) (p : Prim) : NoPanic (reifyPrim std k p) :=
  np_of_fails (reifyPrim_fails (fun _ _ => trivial) k p)

theorem np_fieldGet (f : Field) (v : Val) : NoPanic (fieldGet tcPlain f v) :=
  np_of_fails (fieldGet_fails (fun _ _ => trivial) f v)

theorem np_pathGet : ∀ (p : List Field) (cur : Val), p ≠ [] → NoPanic (pathGet tcPlain p cur) :=
  fun p cur hp => np_of_fails (pathGet_fails (fun _ _ => trivial) p cur hp)

theorem np_pathHas : ∀ (p : List Field) (cur : Val), NoPanic (pathHas tcPlain p cur) := by
  intro p
  induction p with
  | nil => intro _; simp only [pathHas]; exact np_of_fails trivial
  | cons f rest ih =>
    intro cur
    simp only [pathHas]
    have := np_fieldGet f cur
    -- by what `fieldGet` returned, in the order of the model
    split
    · split <;> exact np_of_fails trivial
    · exact np_of_fails trivial
    · exact ih _
    · rename_i s hs; exact absurd hs (this s)
    · exact np_of_fails trivial

mutual
theorem np_reifyP : ∀ (v : Val), NoPanic (reifyP v)
  | .prim p => np_of_fails trivial
  | .dyn _ _ => np_of_fails trivial
  | .sub [] [] _ ha => by cases ha <;> exact np_of_fails trivial
  | .sub (e :: r) [] _ _ => np_bind (np_reifyD (e :: r)) fun _ => np_of_fails trivial
  | .sub [] (x :: r) _ _ => np_bind (np_reifyA (x :: r)) fun _ => np_of_fails trivial
  | .sub (e :: r) (x :: r') _ _ =>
    np_bind (np_reifyD (e :: r)) fun _ => np_bind (np_reifyIdx 0 (x :: r')) fun _ => np_of_fails trivial
theorem np_reifyD : ∀ (d : List (String × Val)), NoPanic (reifyD d)
  | [] => np_of_fails trivial
  | (_, v) :: r => np_bind (np_reifyP v) fun _ => np_bind (np_reifyD r) fun _ => np_of_fails trivial
theorem np_reifyA : ∀ (a : List Val), NoPanic (reifyA a)
  | [] => np_of_fails trivial
  | v :: r => np_bind (np_reifyP v) fun _ => np_bind (np_reifyA r) fun _ => np_of_fails trivial
theorem np_reifyIdx : ∀ (i : Nat) (a : List Val), NoPanic (reifyIdx i a)
  | _, [] => np_of_fails trivial
  | i, v :: r => np_bind (np_reifyP v) fun _ => np_bind (np_reifyIdx (i + 1) r) fun _ => np_of_fails trivial
end

/-- the calls the unpacker hands failures on from do not panic - the generic `reifyP` included, so `interface{}` is in -/
theorem npLeaves : Leaves errOnly True :=
  ⟨fun _ _ => trivial, fun _ v => np_iff_fails.1 (np_reifyP v)⟩

theorem np_reifyPrimitiveT (std : Stdlib) (fo : FOpts) (ty : Ty) (v : Val) : NoPanic (reifyPrimitiveT std fo ty v) :=
  np_of_fails (reifyPrimitiveT_fails npLeaves.typed ..)

theorem np_fieldSet (o : Opts) (f : Field) (node v : Val) (hm : o.maxIdx < hugeAlloc) : NoPanic (fieldSet o f node v) :=
  np_of_fails (fieldSet_fails (fun _ _ => trivial) o f node v (.inl hm))

theorem np_buildChain (o : Opts) (hm : o.maxIdx < hugeAlloc) : ∀ (p : List Field) (v : Val), NoPanic (buildChain o p v) := by
  intro p v
  induction p with
  | nil => simp only [buildChain]; exact np_of_fails trivial
  | cons f rest ih => exact np_bind ih (fun _ => np_fieldSet o f _ _ hm)

theorem np_putChild (node : Val) (f : Field) (v : Val) : NoPanic (putChild node f v) := by
  unfold putChild
  split <;> exact np_of_fails trivial

/-- whole-path writes never panic (as long as MaxIdx itself stays below the allocation bound) -/
theorem np_pathSet (o : Opts) (hm : o.maxIdx < hugeAlloc) : ∀ (p : List Field) (node v : Val), p ≠ [] →
    NoPanic (pathSet tcPlain o p node v) := by
  intro p
  induction p with
  | nil => exact fun _ _ hp => absurd rfl hp
  | cons f q ih =>
    intro node v _
    cases q with
    | nil => simp only [pathSet]; exact np_fieldSet o f node v hm
    | cons g r =>
      simp only [pathSet]
      have hb : NoPanic (do let inner ← buildChain o (g :: r) v; fieldSet o f node inner) :=
        np_bind (np_buildChain o hm _ _) (fun _ => np_fieldSet o f _ _ hm)
      have hg := np_fieldGet f node
      -- by what `fieldGet` returned, in the order of the model: the containers are built (`hb`) or the write goes on
      -- below
      split
      · split
        · exact hb
        · exact np_of_fails trivial
      · exact hb
      · split
        · exact hb
        · exact np_bind (ih _ v (List.cons_ne_nil g r)) (fun _ => np_putChild _ _ _)
      · rename_i s hs; exact absurd hs (hg s)
      · exact np_of_fails trivial

structure PClaims (std : Stdlib) (n : Nat) : Prop where
  merge : ∀ (fo : FOpts) (ty : Ty) (old : GoVal) (v : Val), NoPanic (mergeValue std n fo ty old v)
  reify : ∀ (fo : FOpts) (ty : Ty) (v : Val), NoPanic (reifyValue std n fo ty v)
  strct : ∀ (o : Opts) (fs : List (String × String × String × Ty)) (xs : List GoVal) (cfg : Val),
    NoPanic (reifyStructT std n o fs xs cfg)
  getf : ∀ (fo : FOpts) (t : Ty) (x : GoVal) (cfg : Val) (name : String), NoPanic (getField' std n fo t x cfg name)
  slice : ∀ (fo : FOpts) (t : Ty) (old : Option (List GoVal)) (v : Val), NoPanic (sliceMerge std n fo t old v)
  arr : ∀ (fo : FOpts) (t : Ty) (start : Nat) (xs : List GoVal) (vs : List Val), NoPanic (doArray std n fo t start xs vs)
  mapc : ∀ (o : Opts) (vs : List VTag) (t : Ty) (m0 : Option (List (String × GoVal))) (sub : Val),
    NoPanic (reifyMapT std n o vs t m0 sub)
  ents : ∀ (o : Opts) (t : Ty) (m : List (String × GoVal)) (d : List (String × Val)), NoPanic (mapEntries std n o t m d)

theorem pclaims (std : Stdlib) : ∀ n, PClaims std n := by
  intro n
  have C := failClaims (std := std) npLeaves n
  have g : ∀ {b : Bool}, b = true ∨ True := .inr trivial
  exact ⟨fun _ _ _ _ => np_of_fails (C.merge g), fun _ _ _ => np_of_fails (C.reify g),
    fun _ _ _ _ => np_of_fails (C.strct g), fun _ _ _ _ _ => np_of_fails (C.getf g),
    fun _ _ _ _ => np_of_fails (C.slice g), fun _ _ _ _ _ => np_of_fails (C.arr g),
    fun _ _ _ _ _ => np_of_fails (C.mapc g), fun _ _ _ _ => np_of_fails (C.ents g)⟩

/-- **C07 for Unpack.** Whatever the target type, the pre-filled value, the options and the configuration: `Unpack` does
not panic (every index, slice and lookup on the way is guarded). -/
theorem unpack_never_panics (std : Stdlib) (o : Opts) : ∀ (ty : Ty) (old : GoVal) (cfg : Val),
    NoPanic (unpack std o ty old cfg) :=
  fun ty old cfg => np_of_fails (unpack_fails npLeaves o ty old cfg (.inr trivial))

end Ucfg.C07

/-! ### SetChild does not build a config that contains itself (D40, D47: DESIGN.md section 7) -/
namespace Ucfg.C07
open Ucfg.Forest

/-- `π` leads from `a` down to `b` along stored children (`kids`, Lemmas/ForestAcyclic.lean) -/
def IsPath (h : Heap) : Id → List Id → Id → Prop
  | a, [], b => a = b
  | a, x :: r, b => x ∈ kids h a ∧ IsPath h x r b

/-- `π` leads from `a` up to `b` along stored parent links -/
def IsUpPath (h : Heap) : Id → List Id → Id → Prop
  | a, [], b => a = b
  | a, x :: r, b => (∃ nd, h[a]? = some nd ∧ nd.parent = some x) ∧ IsUpPath h x r b

/-- Config.holds finds every config stored below another one (up to the depth the fuel covers) -/
theorem holdsH_complete (h : Heap) (target : Id) : ∀ (π : List Id) (fuel : Nat) (c : Id),
    IsPath h c π target → π.length < fuel → holdsH fuel h c target = true := by
  intro π fuel c hp hl
  fun_induction holdsH fuel h c target generalizing π
  case case1 => cases hl
  case case2 n h c target ih =>
    cases π with
    | nil => simp [show c = target from hp]
    | cons x r =>
      have hx : x ∈ kids h c := hp.1
      unfold kids at hx
      split at hx
      · rename_i nd hn
        simp only [hn, Bool.or_eq_true, List.any_eq_true]
        exact .inr ⟨x, hx, ih x r hp.2 (Nat.lt_of_succ_lt_succ hl)⟩
      · cases hx

/-- ... and reports nothing that is not there -/
theorem holdsH_sound (h : Heap) (target : Id) : ∀ (fuel : Nat) (c : Id),
    holdsH fuel h c target = true → ∃ π, IsPath h c π target ∧ π.length < fuel := by
  intro fuel c hh
  fun_induction holdsH fuel h c target
  case case1 => cases hh
  case case2 n h c target ih =>
    simp only [Bool.or_eq_true, beq_iff_eq] at hh
    rcases hh with e | hh
    · exact ⟨[], e, Nat.zero_lt_succ _⟩
    · split at hh
      · rename_i nd hn
        obtain ⟨x, hx, hrec⟩ := List.any_eq_true.mp hh
        obtain ⟨π, hp, hl⟩ := ih x hrec
        exact ⟨x :: π, ⟨by unfold kids; rw [hn]; exact hx, hp⟩, Nat.succ_lt_succ hl⟩
      · cases hh

/-- the walk up the parents a config knows of finds every one of them (up to the fuel) -/
theorem onParentChain_complete (h : Heap) (anc : Id) : ∀ (π : List Id) (fuel : Nat) (c : Id),
    IsUpPath h c π anc → π.length < fuel → onParentChain h fuel c anc = true := by
  intro π
  induction π with
  | nil =>
    intro fuel c hp hl
    cases fuel with
    | zero => cases hl
    | succ n =>
      have hp' : c = anc := hp
      subst hp'
      simp [onParentChain]
  | cons x r ih =>
    intro fuel c hp hl
    cases fuel with
    | zero => cases hl
    | succ n =>
      obtain ⟨⟨nd, hn, hpar⟩, hr⟩ := hp
      have hrec := ih n x hr (Nat.lt_of_succ_lt_succ hl)
      simp only [onParentChain, hn, hpar]
      split
      · rfl
      · exact hrec

/-- SetChild refuses (ErrCyclicReference, nothing changes) a child that holds the config it would be stored in, however
the child came to hold it - stored below it directly, through a name that leads through the child, or by way of a second
attachment the stored parents do not show -/
theorem setChild_refuses_holder (fuel : Nat) (h : Heap) (c child t : Id) (segs : List Seg) (π : List Id)
    (ht : containerOf h c segs = some t) (hp : IsPath h child π t) (hl : π.length < fuel) :
    setChildH fuel h c segs child = .err := by
  unfold setChildH
  simp only [ht, holdsH_complete h t π fuel child hp hl, Bool.or_true, if_true]

/-- ... and a child that is one of the parents the receiver or the target know of (a parent link can be stale: then the
child does not hold the target, and still Path() would run in a circle) -/
theorem setChild_refuses_parent_of_receiver (fuel : Nat) (h : Heap) (c child : Id) (segs : List Seg) (π : List Id)
    (hp : IsUpPath h c π child) (hl : π.length < fuel) : setChildH fuel h c segs child = .err := by
  unfold setChildH
  simp only [onParentChain_complete h child π fuel c hp hl, Bool.true_or, if_true]

theorem setChild_refuses_parent_of_target (fuel : Nat) (h : Heap) (c child t : Id) (segs : List Seg) (π : List Id)
    (ht : containerOf h c segs = some t) (hp : IsUpPath h t π child) (hl : π.length < fuel) :
    setChildH fuel h c segs child = .err := by
  unfold setChildH
  simp only [ht, onParentChain_complete h child π fuel t hp hl, Bool.true_or, Bool.or_true, if_true]

/-- the three witnesses of D47 on the model: `c.SetChild("o.back", o)` with `o = c.Child("o")` ... -/
example : setChildH 8 [⟨none, "", .sub [("o", 1)] []⟩, ⟨some 0, "o", .sub [] []⟩] 0 [.name "o", .name "back"] 1 = .err := by decide +kernel
/-- ... `d` holds `x` by a second attachment (x's stored parent is `c`), `d` attached below `x.k` ... -/
example : setChildH 8 [⟨none, "", .sub [("x", 1)] []⟩, ⟨some 0, "x", .sub [("k", 2)] []⟩, ⟨some 1, "k", .sub [] []⟩,
    ⟨none, "", .sub [("y", 1)] []⟩] 2 [.name "z"] 3 = .err := by decide +kernel
/-- ... `z` is the stale stored parent of `m` (removed from it), `m` attached to `c` as `n`, `z` attached below `n` -/
example : setChildH 8 [⟨none, "", .sub [("n", 2)] []⟩, ⟨none, "", .sub [] []⟩, ⟨some 1, "m", .sub [] []⟩] 0 [.name "n", .name "z"] 1 = .err := by decide +kernel
/-- while an unrelated config is attached -/
example : setChildH 8 [⟨none, "", .sub [("o", 1)] []⟩, ⟨some 0, "o", .sub [] []⟩, ⟨none, "", .sub [] []⟩] 0 [.name "o", .name "q"] 2 =
    .ok [⟨none, "", .sub [("o", 1)] []⟩, ⟨some 0, "o", .sub [("q", 2)] []⟩, ⟨some 1, "q", .sub [] []⟩] := by decide +kernel

theorem Reach.toPath {h : Heap} {a b : Id} (r : Reach h a b) : ∃ π, IsPath h a π b := by
  induction r with
  | refl a => exact ⟨[], rfl⟩
  | step hx _ ih => obtain ⟨π, hp⟩ := ih; exact ⟨_ :: π, hx, hp⟩

/-- A SetChild that succeeds - under any name: a name or an index as the last segment, below an existing config or below
objects the call creates on the way, padding lists with nulls - keeps the heap free of configs stored below themselves
(`NoCycle`: no node is reached from one of its own entries).  `grows_noCycle` (Lemmas/ForestAcyclic.lean) is the
argument: what hangs below the target afterwards is a chain of new nodes ending in the child (`setChain_grows`), the child
did not hold the target (`holdsH` is complete, `holdsH_complete`), so every way back to an old node leads through the
child and stays among what the child held before.
Hypotheses: the entries of the heap's nodes are nodes of the heap (`KidsClosed`), the child exists, and the fuel covers
the depth of the heap (`hfuel`: what is stored below a config at all is stored within `fuel` levels - true for
`fuel ≥ h.length` in a heap without cycles). -/
theorem setChild_keeps_acyclic (fuel : Nat) (h h' : Heap) (c child : Id) (segs : List Seg)
    (hs : setChildH fuel h c segs child = .ok h') (nc : NoCycle h) (kc : KidsClosed h) (hchild : child < h.length)
    (hfuel : ∀ a b π, IsPath h a π b → ∃ π', IsPath h a π' b ∧ π'.length < fuel) : NoCycle h' := by
  obtain ⟨t, rest, q, _, hg, rfl, hhold⟩ := setChildH_ok hs
  have hnot : ¬ Reach h child t := by
    intro hr
    obtain ⟨π, hp⟩ := Reach.toPath hr
    obtain ⟨π', hp', hl⟩ := hfuel _ _ π hp
    rw [holdsH_complete h t π' fuel child hp' hl] at hhold
    cases hhold
  by_cases hrest : rest = []
  · subst hrest; exact nc
  · exact grows_noCycle (setChain_grows child rest h t (getSub_lt hg) hchild hrest) kc nc (getSub_lt hg) hchild hnot

/-- Set* (a new primitive at the end of any path) keeps the heap free of cycles: nothing that existed is attached -/
theorem setPath_keeps_acyclic (h h' : Heap) (root : Id) (segs : List Seg) (k v : String)
    (hs : setPathH h root segs (.prim k v) = .ok h') (nc : NoCycle h) : NoCycle h' :=
  (setPathH_stable (minv_stable h.length h) (fun _ _ _ => trivial) (minv_refl h) hs).noCycle nc

/-- ... and the entries of the heap's nodes stay inside the heap -/
theorem setChild_keeps_kidsClosed (fuel : Nat) (h h' : Heap) (c child : Id) (segs : List Seg)
    (hs : setChildH fuel h c segs child = .ok h') (kc : KidsClosed h) (hchild : child < h.length) : KidsClosed h' := by
  obtain ⟨t, rest, q, _, hg, rfl, _⟩ := setChildH_ok hs
  exact setChain_child_kidsClosed child rest h t (getSub_lt hg) hchild kc

/-- non-vacuity: the unrelated config of the example above is attached below an object the call creates, in a heap
without cycles; and a heap with closed entries -/
example : setChildH 8 [⟨none, "", .sub [("o", 1)] []⟩, ⟨some 0, "o", .sub [] []⟩, ⟨none, "", .sub [] []⟩] 0
    [.name "o", .name "new", .idx 1] 2 =
    .ok [⟨none, "", .sub [("o", 1)] []⟩, ⟨some 0, "o", .sub [("new", 3)] []⟩, ⟨some 3, "1", .sub [] []⟩,
         ⟨some 1, "new", .sub [] [4, 2]⟩, ⟨some 3, "0", .prim "nil" ""⟩] := by decide +kernel

/-- Merge as a whole, under every list policy: a heap without cycles stays without cycles (and its entries stay inside
it).  `MInv` (Lemmas/ForestAcyclic.lean): every node a copy allocates lists only nodes allocated after it, old nodes
list what they listed or new nodes - carried through the three merge functions by induction over the fuel. -/
theorem merge_keeps_acyclic (n cf : Nat) (pol : ArrPol) (h h' : Heap) (to frm : Id)
    (he : mergeH n cf pol h to frm = some h') (kc : KidsClosed h) (nc : NoCycle h) : NoCycle h' ∧ KidsClosed h' :=
  minv_noCycle ((aclaims h.length h n).mh cf pol h h' to frm (minv_refl h) he) kc nc

/-- Merge of a source value (plain data with configs embedded anywhere) -/
theorem mergeSrc_keeps_acyclic (n cf : Nat) (pol : ArrPol) (h h' : Heap) (to : Id) (src : Src)
    (he : mergeSrcH n cf pol h to src = some h') (kc : KidsClosed h) (nc : NoCycle h) : NoCycle h' ∧ KidsClosed h' :=
  minv_noCycle (mergeSrcH_stable (minv_stable h.length h) (minv_refl h) trivial he) kc nc

/-- NewFrom of a source value -/
theorem newFrom_keeps_acyclic (n cf : Nat) (pol : ArrPol) (h h' : Heap) (src : Src) (root : Id)
    (he : newFromH n cf pol h src = some (h', root)) (kc : KidsClosed h) (nc : NoCycle h) : NoCycle h' ∧ KidsClosed h' :=
  minv_noCycle (newFromH_stable (minv_stable h.length h) (minv_refl h) he) kc nc

/-- Set* keeps the entries inside the heap -/
theorem setPath_keeps_kidsClosed (h h' : Heap) (root : Id) (segs : List Seg) (k v : String)
    (hs : setPathH h root segs (.prim k v) = .ok h') (kc : KidsClosed h) : KidsClosed h' :=
  (setPathH_stable (minv_stable h.length h) (fun _ _ _ => trivial) (minv_refl h) hs).kidsClosed kc

/-- a history of NewFrom, Merge and Set* calls (values with configs embedded anywhere, configs merged into configs,
primitives written along any path) -/
inductive COp where
  | new (pol : ArrPol) (src : Src)
  | mergeVal (pol : ArrPol) (to : Id) (src : Src)
  | merge (pol : ArrPol) (to frm : Id)
  | set (root : Id) (segs : List Seg) (kind val : String)

def runCOps (n cf : Nat) : Heap → List COp → Heap
  | h, [] => h
  | h, .new pol src :: r =>
    (match newFromH n cf pol h src with
     | some (h1, _) => runCOps n cf h1 r
     | none => runCOps n cf h r)
  | h, .mergeVal pol to src :: r =>
    (match mergeSrcH n cf pol h to src with
     | some h1 => runCOps n cf h1 r
     | none => runCOps n cf h r)
  | h, .merge pol to frm :: r =>
    (match mergeH n cf pol h to frm with
     | some h1 => runCOps n cf h1 r
     | none => runCOps n cf h r)
  | h, .set root segs k v :: r =>
    (match setPathH h root segs (.prim k v) with
     | .ok h1 => runCOps n cf h1 r
     | _ => runCOps n cf h r)

/-- no history of NewFrom, Merge and Set* calls makes a config part of its own subtree - starting from nothing -/
theorem history_keeps_acyclic (n cf : Nat) (ops : List COp) :
    ∀ h, KidsClosed h → NoCycle h → NoCycle (runCOps n cf h ops) ∧ KidsClosed (runCOps n cf h ops) := by
  induction ops with
  | nil => intro h kc nc; exact ⟨nc, kc⟩
  | cons op r ih =>
    intro h kc nc
    cases op with
    | new pol src =>
      simp only [runCOps]
      cases hm : newFromH n cf pol h src with
      | none => exact ih h kc nc
      | some r1 =>
        obtain ⟨h1, root⟩ := r1
        obtain ⟨a, b⟩ := newFrom_keeps_acyclic n cf pol h h1 src root hm kc nc
        exact ih h1 b a
    | mergeVal pol to src =>
      simp only [runCOps]
      cases hm : mergeSrcH n cf pol h to src with
      | none => exact ih h kc nc
      | some h1 =>
        obtain ⟨a, b⟩ := mergeSrc_keeps_acyclic n cf pol h h1 to src hm kc nc
        exact ih h1 b a
    | merge pol to frm =>
      simp only [runCOps]
      cases hm : mergeH n cf pol h to frm with
      | none => exact ih h kc nc
      | some h1 =>
        obtain ⟨a, b⟩ := merge_keeps_acyclic n cf pol h h1 to frm hm kc nc
        exact ih h1 b a
    | set root segs k v =>
      simp only [runCOps]
      cases hs : setPathH h root segs (.prim k v) with
      | ok h1 =>
        exact ih h1 (setPath_keeps_kidsClosed h h1 root segs k v hs kc) (setPath_keeps_acyclic h h1 root segs k v hs nc)
      | err => exact ih h kc nc
      | unmodelled => exact ih h kc nc

theorem empty_acyclic : NoCycle [] ∧ KidsClosed [] := by
  refine ⟨?_, ?_⟩ <;> (intro a x hx; rw [kids_none (Nat.zero_le _)] at hx; cases hx)

end Ucfg.C07
