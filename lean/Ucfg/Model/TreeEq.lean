import Ucfg.Model.Tree
/-
  Decidable equality for the nested inductives `Expr` and `Val` (the deriving
  handler does not apply to nested inductives): boolean equality by mutual
  structural recursion, proved to coincide with `=`.
-/
namespace Ucfg

mutual
def Expr.beq : Expr → Expr → Bool
  | .const a, .const b => a == b
  | .ref f1 s1, .ref f2 s2 => f1 == f2 && s1 == s2
  | .splice p1, .splice p2 => Expr.beqL p1 p2
  | .single e1 s1, .single e2 s2 => Expr.beq e1 e2 && s1 == s2
  | .dflt l1 r1 s1, .dflt l2 r2 s2 => Expr.beq l1 l2 && Expr.beq r1 r2 && s1 == s2
  | .alt l1 r1 s1, .alt l2 r2 s2 => Expr.beq l1 l2 && Expr.beq r1 r2 && s1 == s2
  | .errx l1 r1 s1, .errx l2 r2 s2 => Expr.beq l1 l2 && Expr.beq r1 r2 && s1 == s2
  | _, _ => false
def Expr.beqL : List Expr → List Expr → Bool
  | [], [] => true
  | a :: r1, b :: r2 => Expr.beq a b && Expr.beqL r1 r2
  | _, _ => false
end

/-! In the proofs the two sides are cased one after the other, so that a pair of different constructors is one
`cases h` (there `beq` is `false` by computation), and `beq` on a pair of equal constructors is read by `change`:
neither needs the equation lemmas of `beq`, whose generation for the catch-all match costs more than the proofs. -/

theorem Bool.and_intro {a b : Bool} (ha : a = true) (hb : b = true) : (a && b) = true :=
  Bool.and_eq_true_iff.mpr ⟨ha, hb⟩

mutual
theorem Expr.eq_of_beq : ∀ (a b : Expr), Expr.beq a b = true → a = b
  | .const a => by
    intro b h
    cases b with
    | const b => exact congrArg _ (beq_iff_eq.mp h)
    | _ => cases h
  | .ref f1 s1 => by
    intro b h
    cases b with
    | ref f2 s2 =>
      have h := Bool.and_eq_true_iff.mp h
      rw [beq_iff_eq.mp h.1, beq_iff_eq.mp h.2]
    | _ => cases h
  | .splice p1 => by
    intro b h
    cases b with
    | splice p2 => exact congrArg _ (Expr.eq_of_beqL p1 p2 h)
    | _ => cases h
  | .single e1 s1 => by
    intro b h
    cases b with
    | single e2 s2 =>
      have h := Bool.and_eq_true_iff.mp h
      rw [Expr.eq_of_beq e1 e2 h.1, beq_iff_eq.mp h.2]
    | _ => cases h
  | .dflt l1 r1 s1 => by
    intro b h
    cases b with
    | dflt l2 r2 s2 =>
      have h := Bool.and_eq_true_iff.mp h
      have hlr := Bool.and_eq_true_iff.mp h.1
      rw [Expr.eq_of_beq l1 l2 hlr.1, Expr.eq_of_beq r1 r2 hlr.2, beq_iff_eq.mp h.2]
    | _ => cases h
  | .alt l1 r1 s1 => by
    intro b h
    cases b with
    | alt l2 r2 s2 =>
      have h := Bool.and_eq_true_iff.mp h
      have hlr := Bool.and_eq_true_iff.mp h.1
      rw [Expr.eq_of_beq l1 l2 hlr.1, Expr.eq_of_beq r1 r2 hlr.2, beq_iff_eq.mp h.2]
    | _ => cases h
  | .errx l1 r1 s1 => by
    intro b h
    cases b with
    | errx l2 r2 s2 =>
      have h := Bool.and_eq_true_iff.mp h
      have hlr := Bool.and_eq_true_iff.mp h.1
      rw [Expr.eq_of_beq l1 l2 hlr.1, Expr.eq_of_beq r1 r2 hlr.2, beq_iff_eq.mp h.2]
    | _ => cases h
theorem Expr.eq_of_beqL : ∀ (a b : List Expr), Expr.beqL a b = true → a = b
  | [] => by
    intro b h
    cases b with
    | nil => rfl
    | cons _ _ => cases h
  | a :: r1 => by
    intro l h
    cases l with
    | nil => cases h
    | cons b r2 =>
      have h := Bool.and_eq_true_iff.mp h
      rw [Expr.eq_of_beq a b h.1, Expr.eq_of_beqL r1 r2 h.2]
end

mutual
theorem Expr.beq_refl : ∀ (a : Expr), Expr.beq a a = true
  | .const a => beq_self_eq_true a
  | .ref f s => Bool.and_intro (beq_self_eq_true f) (beq_self_eq_true s)
  | .splice p => Expr.beqL_refl p
  | .single e s => Bool.and_intro (Expr.beq_refl e) (beq_self_eq_true s)
  | .dflt l r s | .alt l r s | .errx l r s =>
    Bool.and_intro (Bool.and_intro (Expr.beq_refl l) (Expr.beq_refl r)) (beq_self_eq_true s)
theorem Expr.beqL_refl : ∀ (a : List Expr), Expr.beqL a a = true
  | [] => rfl
  | a :: r => Bool.and_intro (Expr.beq_refl a) (Expr.beqL_refl r)
end

instance : DecidableEq Expr := fun a b =>
  if h : Expr.beq a b = true then isTrue (Expr.eq_of_beq a b h)
  else isFalse (fun e => h (e ▸ Expr.beq_refl a))

mutual
def Val.beq : Val → Val → Bool
  | .prim p, .prim q => p == q
  | .dyn i e, .dyn j f => i == j && e == f
  | .sub d1 a1 hd1 ha1, .sub d2 a2 hd2 ha2 =>
    Val.beqD d1 d2 && Val.beqA a1 a2 && hd1 == hd2 && ha1 == ha2
  | _, _ => false
def Val.beqD : List (String × Val) → List (String × Val) → Bool
  | [], [] => true
  | (k1, v1) :: r1, (k2, v2) :: r2 => k1 == k2 && Val.beq v1 v2 && Val.beqD r1 r2
  | _, _ => false
def Val.beqA : List Val → List Val → Bool
  | [], [] => true
  | v1 :: r1, v2 :: r2 => Val.beq v1 v2 && Val.beqA r1 r2
  | _, _ => false
end

mutual
theorem Val.eq_of_beq : ∀ (a b : Val), Val.beq a b = true → a = b
  | .prim p => by
    intro b h
    cases b with
    | prim q => exact congrArg _ (beq_iff_eq.mp h)
    | _ => cases h
  | .dyn i e => by
    intro b h
    cases b with
    | dyn j f =>
      have h := Bool.and_eq_true_iff.mp h
      rw [beq_iff_eq.mp h.1, beq_iff_eq.mp h.2]
    | _ => cases h
  | .sub d1 a1 hd1 ha1 => by
    intro b h
    cases b with
    | sub d2 a2 hd2 ha2 =>
      change (_ && _ && _ && _) = true at h
      simp only [Bool.and_eq_true, beq_iff_eq] at h
      rw [Val.eq_of_beqD d1 d2 h.1.1.1, Val.eq_of_beqA a1 a2 h.1.1.2, h.1.2, h.2]
    | _ => cases h
theorem Val.eq_of_beqD : ∀ (a b : List (String × Val)), Val.beqD a b = true → a = b
  | [] => by
    intro b h
    cases b with
    | nil => rfl
    | cons _ _ => cases h
  | (k1, v1) :: r1 => by
    intro l h
    cases l with
    | nil => cases h
    | cons e r2 =>
      obtain ⟨k2, v2⟩ := e
      change (_ && _ && _) = true at h
      simp only [Bool.and_eq_true, beq_iff_eq] at h
      rw [h.1.1, Val.eq_of_beq v1 v2 h.1.2, Val.eq_of_beqD r1 r2 h.2]
theorem Val.eq_of_beqA : ∀ (a b : List Val), Val.beqA a b = true → a = b
  | [] => by
    intro b h
    cases b with
    | nil => rfl
    | cons _ _ => cases h
  | v1 :: r1 => by
    intro l h
    cases l with
    | nil => cases h
    | cons v2 r2 =>
      have h := Bool.and_eq_true_iff.mp h
      rw [Val.eq_of_beq v1 v2 h.1, Val.eq_of_beqA r1 r2 h.2]
end

mutual
theorem Val.beq_refl : ∀ (a : Val), Val.beq a a = true
  | .prim p => beq_self_eq_true p
  | .dyn i e => Bool.and_intro (beq_self_eq_true i) (beq_self_eq_true e)
  | .sub d a hd ha =>
    Bool.and_intro (Bool.and_intro (Bool.and_intro (Val.beqD_refl d) (Val.beqA_refl a)) (beq_self_eq_true hd)) (beq_self_eq_true ha)
theorem Val.beqD_refl : ∀ (a : List (String × Val)), Val.beqD a a = true
  | [] => rfl
  | (k, v) :: r => Bool.and_intro (Bool.and_intro (beq_self_eq_true k) (Val.beq_refl v)) (Val.beqD_refl r)
theorem Val.beqA_refl : ∀ (a : List Val), Val.beqA a a = true
  | [] => rfl
  | v :: r => Bool.and_intro (Val.beq_refl v) (Val.beqA_refl r)
end

instance : DecidableEq Val := fun a b =>
  if h : Val.beq a b = true then isTrue (Val.eq_of_beq a b h)
  else isFalse (fun e => h (e ▸ Val.beq_refl a))

end Ucfg
