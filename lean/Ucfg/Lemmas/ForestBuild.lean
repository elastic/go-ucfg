import Ucfg.Lemmas.ForestPlaced
import Ucfg.Lemmas.ForestAcyclic
/-!
  What NewFrom / Merge build from a source value (`buildH`, Model/Forest.lean), walked through once (`buildH_stable`): it
  allocates, copies and links in new nodes, so every `Stable` property survives it, Merge of a value and NewFrom
  (`mergeSrcH_stable`, `newFromH_stable`).  Read off: every node that existed, the embedded configs included, is what it
  was; what is built stores its positions (`buildH_ok`) and is a tree of new nodes (`buildH_up`).
-/
namespace Ucfg.Forest

theorem ext_setBody_new {h0 h : Heap} (e : Ext h0 h) (me : Id) (b : Body) (hme : h0.length ≤ me) :
    Ext h0 (setBody h me b) := by
  obtain ⟨t, rfl⟩ := e
  unfold setBody
  cases hn : (h0 ++ t)[me]? with
  | none => exact ⟨t, rfl⟩
  | some n =>
    simp only
    refine ⟨t.set (me - h0.length) { n with body := b }, ?_⟩
    rw [List.set_append_right _ _ hme]

def NewFresh (h h' : Heap) : Prop :=
  ∀ (j : Nat) (nd : Node), h.length ≤ j → h'[j]? = some nd → ∀ c ∈ nd.body.children, h.length ≤ c

structure BuildOk (h : Heap) (p : Option Id) (f : String) (h' : Heap) (id : Id) : Prop where
  ext : Ext h h'
  id_eq : id = h.length
  ctx : ∃ b, h'[id]? = some (⟨p, f, b⟩ : Node)
  wp : WP h → WP h'
  fresh : NewFresh h h'

variable {base : Nat} {P : Heap → Prop} {D : Id → Prop}

/-- the last step for a list or a map: the node `nw` was allocated empty at `h.length`, its parts were built behind it
under the context `(h.length, index or key)`, and are linked in here -/
theorem build_link (st : Stable base P D) {h h1 : Heap} {nw : Node} {b : Body}
    (ph1 : P h1) (e1 : Ext (h ++ [nw]) h1) (hb : base ≤ h.length)
    (hnew : ∀ k x, Entry b k x → (h ++ [nw]).length ≤ x ∧ ∃ bx, h1[x]? = some (⟨some h.length, k, bx⟩ : Node)) :
    P (setBody h1 h.length b) ∧ Ext h (setBody h1 h.length b) ∧
      ∃ b', (setBody h1 h.length b)[h.length]? = some (⟨nw.parent, nw.field, b'⟩ : Node) := by
  have hme : h1[h.length]? = some nw := by rw [e1.old (by simp)]; exact List.getElem?_concat_length
  have hlt : h.length < (h ++ [nw]).length := by simp
  refine ⟨st.link ph1 (st.fresh hb) hme (fun k x e => .inr ?_), ext_setBody_new (Ext.trans ⟨[nw], rfl⟩ e1) _ _ (Nat.le_refl _),
    b, by rw [setBody_same hme]⟩
  obtain ⟨hx, hbx⟩ := hnew k x e
  exact ⟨Nat.le_trans hb (Nat.le_of_lt (Nat.lt_of_lt_of_le hlt hx)), Nat.lt_of_lt_of_le hlt hx, hbx⟩

mutual
/-- `buildH` as a sequence of allocations, copies and links -/
theorem buildH_stable (st : Stable base P D) (cf : Nat) : ∀ (s : Src) (h : Heap) (p : Option Id) (f : String) (h' : Heap)
    (id : Id), P h → buildH cf h s p f = some (h', id) →
    P h' ∧ Ext h h' ∧ id = h.length ∧ ∃ b, h'[id]? = some (⟨p, f, b⟩ : Node)
  | .nil | .prim _ _ => by
    intro h p f h' id ph he
    simp only [buildH, Option.some.injEq, Prod.mk.injEq] at he
    obtain ⟨rfl, rfl⟩ := he
    exact ⟨st.alloc ph rfl, ⟨_, rfl⟩, rfl, _, List.getElem?_concat_length⟩
  | .reg r => by
    intro h p f h' id ph he
    simp only [buildH] at he
    obtain ⟨⟨t, rfl⟩, hid, hb⟩ := cpy_appends he
    exact ⟨st.copy ph he, ⟨t, rfl⟩, hid, hb⟩
  | .arr xs => by
    intro h p f h' id ph he
    simp only [buildH] at he
    split at he
    · cases he
    · rename_i h1 ids hl
      simp only [Option.some.injEq, Prod.mk.injEq] at he
      obtain ⟨rfl, rfl⟩ := he
      obtain ⟨ph1, e1, hids⟩ := buildListH_stable st cf xs _ h.length 0 h1 ids (st.alloc ph rfl) hl
      obtain ⟨a, b, c⟩ := build_link st (nw := ⟨p, f, .sub [] []⟩) (b := .sub [] ids) ph1 e1 (st.len ph) (fun k x e => by
        rcases e with hm | ⟨j, hj, rfl⟩
        · cases hm
        · exact Nat.zero_add j ▸ hids j x hj)
      exact ⟨a, b, rfl, c⟩
  | .map es => by
    intro h p f h' id ph he
    simp only [buildH] at he
    split at he
    · cases he
    · rename_i h1 d hl
      simp only [Option.some.injEq, Prod.mk.injEq] at he
      obtain ⟨rfl, rfl⟩ := he
      obtain ⟨ph1, e1, hd⟩ := buildEntriesH_stable st cf es _ h.length h1 d (st.alloc ph rfl) hl
      obtain ⟨a, b, c⟩ := build_link st (nw := ⟨p, f, .sub [] []⟩) (b := .sub d []) ph1 e1 (st.len ph) (fun k x e => by
        rcases e with hm | ⟨j, hj, _⟩
        · exact hd (k, x) hm
        · simp at hj)
      exact ⟨a, b, rfl, c⟩

theorem buildListH_stable (st : Stable base P D) (cf : Nat) : ∀ (xs : List Src) (h : Heap) (me i : Nat) (h' : Heap)
    (ids : List Id), P h → buildListH cf h me i xs = some (h', ids) →
    P h' ∧ Ext h h' ∧
      ∀ (j : Nat) (c : Id), ids[j]? = some c → h.length ≤ c ∧ ∃ b, h'[c]? = some (⟨some me, idxName (i + j), b⟩ : Node)
  | [] => by
    intro h me i h' ids ph he
    simp only [buildListH, Option.some.injEq, Prod.mk.injEq] at he
    obtain ⟨rfl, rfl⟩ := he
    exact ⟨ph, Ext.refl h, fun j c hc => (by simp at hc)⟩
  | x :: r => by
    intro h me i h' ids ph he
    simp only [buildListH] at he
    split at he
    · cases he
    · rename_i h1 c hb
      split at he
      · cases he
      · rename_i h2 cs hr
        simp only [Option.some.injEq, Prod.mk.injEq] at he
        obtain ⟨rfl, rfl⟩ := he
        obtain ⟨ph1, e1, hid, b, hb1⟩ := buildH_stable st cf x h (some me) (idxName i) h1 c ph hb
        obtain ⟨ph2, e2, hcs⟩ := buildListH_stable st cf r h1 me (i + 1) h2 cs ph1 hr
        refine ⟨ph2, e1.trans e2, fun j c' hc' => ?_⟩
        cases j with
        | zero =>
          simp only [List.getElem?_cons_zero, Option.some.injEq] at hc'
          subst hc'
          exact ⟨Nat.le_of_eq hid.symm, b, by rw [e2.old (lt_of_getElem?_some hb1)]; exact hb1⟩
        | succ j =>
          obtain ⟨h3, b2, hb2⟩ := hcs j c' ((List.getElem?_cons_succ).symm.trans hc')
          exact ⟨Nat.le_trans e1.len h3, b2, by rw [hb2, Nat.add_assoc, Nat.add_comm 1 j]⟩

theorem buildEntriesH_stable (st : Stable base P D) (cf : Nat) : ∀ (es : List (String × Src)) (h : Heap) (me : Nat)
    (h' : Heap) (d : List (String × Id)), P h → buildEntriesH cf h me es = some (h', d) →
    P h' ∧ Ext h h' ∧ ∀ kc ∈ d, h.length ≤ kc.2 ∧ ∃ b, h'[kc.2]? = some (⟨some me, kc.1, b⟩ : Node)
  | [] => by
    intro h me h' d ph he
    simp only [buildEntriesH, Option.some.injEq, Prod.mk.injEq] at he
    obtain ⟨rfl, rfl⟩ := he
    exact ⟨ph, Ext.refl h, fun kc hkc => (by cases hkc)⟩
  | (k, x) :: r => by
    intro h me h' d ph he
    simp only [buildEntriesH] at he
    split at he
    · cases he
    · rename_i h1 c hb
      split at he
      · cases he
      · rename_i h2 d2 hr
        simp only [Option.some.injEq, Prod.mk.injEq] at he
        obtain ⟨rfl, rfl⟩ := he
        obtain ⟨ph1, e1, hid, b, hb1⟩ := buildH_stable st cf x h (some me) k h1 c ph hb
        obtain ⟨ph2, e2, hd2⟩ := buildEntriesH_stable st cf r h1 me h2 d2 ph1 hr
        refine ⟨ph2, e1.trans e2, fun kc hkc => ?_⟩
        rcases List.mem_cons.mp hkc with e | e
        · subst e
          exact ⟨Nat.le_of_eq hid.symm, b, by rw [e2.old (lt_of_getElem?_some hb1)]; exact hb1⟩
        · obtain ⟨h3, hb2⟩ := hd2 kc e
          exact ⟨Nat.le_trans e1.len h3, hb2⟩
end

theorem mergeSrcH_stable (st : Stable base P D) {n cf : Nat} {pol : ArrPol} {h h' : Heap} {to : Id} {src : Src}
    (ph : P h) (dt : D to) (he : mergeSrcH n cf pol h to src = some h') : P h' := by
  unfold mergeSrcH at he
  split at he
  · exact (merge_stable st n).mh ph dt he
  · split at he
    · rename_i h1 frm hb
      exact (merge_stable st n).mh (buildH_stable st cf _ h none "" h1 frm ph hb).1 dt he
    · cases he

theorem newFromH_stable (st : Stable base P D) {n cf : Nat} {pol : ArrPol} {h h' : Heap} {src : Src} {root : Id}
    (ph : P h) (he : newFromH n cf pol h src = some (h', root)) : P h' := by
  unfold newFromH at he
  split at he
  · rename_i h2 hm
    simp only [Option.some.injEq, Prod.mk.injEq] at he
    exact he.1 ▸ mergeSrcH_stable st (st.alloc ph rfl) (st.fresh (st.len ph)) hm
  · cases he

theorem newFresh_of_up {h h' : Heap} (u : Up h.length h') : NewFresh h h' :=
  fun j nd hj hn c hc => Nat.le_trans hj (Nat.le_of_lt (u j nd hj hn c hc).1)

theorem buildH_ok (cf : Nat) : ∀ (s : Src) (h : Heap) (p : Option Id) (f : String) (h' : Heap) (id : Id),
    buildH cf h s p f = some (h', id) → BuildOk h p f h' id := by
  intro s h p f h' id he
  obtain ⟨inv, e, hid, hb⟩ := buildH_stable (minv_stable h.length h) cf s h p f h' id (minv_refl h) he
  exact ⟨e, hid, hb, fun w => (buildH_stable wp_stable cf s h p f h' id w he).1, newFresh_of_up inv.up⟩

theorem buildH_up (cf : Nat) : ∀ (s : Src) (h : Heap) (p : Option Id) (f : String) (h' : Heap) (id : Id),
    buildH cf h s p f = some (h', id) → Up h.length h' :=
  fun s h p f h' id he => (buildH_stable (minv_stable h.length h) cf s h p f h' id (minv_refl h) he).1.up

theorem buildListH_up (cf : Nat) : ∀ (xs : List Src) (h : Heap) (me i : Nat) (h' : Heap) (ids : List Id),
    buildListH cf h me i xs = some (h', ids) → Up h.length h' ∧ ∀ c ∈ ids, h.length ≤ c ∧ c < h'.length := by
  intro xs h me i h' ids he
  obtain ⟨inv, _, hids⟩ := buildListH_stable (minv_stable h.length h) cf xs h me i h' ids (minv_refl h) he
  refine ⟨inv.up, fun c hc => ?_⟩
  obtain ⟨j, hj⟩ := List.getElem?_of_mem hc
  obtain ⟨h1, _, hb⟩ := hids j c hj
  exact ⟨h1, lt_of_getElem?_some hb⟩

theorem buildEntriesH_up (cf : Nat) : ∀ (es : List (String × Src)) (h : Heap) (me : Nat) (h' : Heap) (d : List (String × Id)),
    buildEntriesH cf h me es = some (h', d) → Up h.length h' ∧ ∀ kc ∈ d, h.length ≤ kc.2 ∧ kc.2 < h'.length := by
  intro es h me h' d he
  obtain ⟨inv, _, hd⟩ := buildEntriesH_stable (minv_stable h.length h) cf es h me h' d (minv_refl h) he
  refine ⟨inv.up, fun kc hkc => ?_⟩
  obtain ⟨h1, _, hb⟩ := hd kc hkc
  exact ⟨h1, lt_of_getElem?_some hb⟩

end Ucfg.Forest
