import Ucfg.Spec.C03
import Ucfg.Lemmas.Outcome
import Ucfg.Lemmas.F64Int
/-
  C03 — typed unpacking preserves the value or fails - it never wraps around.

  `reifyPrim` (Model/PrimUnpack.lean) transcribes doReifyPrimitive/reifyInt/…/reifyDuration
  with the guards of types.go *as regenerated from the source* (Extracted.guard_*).
  `specConv` (Spec/C03.lean) is the statement.  The theorems say the two coincide on every
  int64 / uint64 / float64 / string / bool setting.
-/
namespace Ucfg.C03
open Ucfg Ucfg.Spec.C03

@[simp] theorem toOpt_wrap {α : Type} (x : Outcome α) : toOpt (reifyPrim.wrap x) = toOpt x := by
  cases x <;> rfl

theorem overflowInt_eq (bits : Nat) (i : Int) : overflowInt bits i = !intRange bits i := by
  simp [overflowInt, intRange, Bool.decide_and]

theorem overflowUint_eq (bits : Nat) (n : Nat) : overflowUint bits n = !uintRange bits (n : Int) := by
  simp only [overflowUint, uintRange]
  have : (0 : Int) ≤ (n : Int) := Int.natCast_nonneg n
  have h2 : ((n : Int) < (2 : Int) ^ bits) ↔ n < 2 ^ bits := by
    exact Int.ofNat_lt
  simp [this, h2]

theorem intRange64 (t : Int) : intRange 64 t = (decide (-9223372036854775808 ≤ t) && decide (t < 9223372036854775808)) := rfl

/-- `math.IsNaN(f) || f < MinInt64 || MaxInt64 <= f` is false exactly when the truncation is an int64 -/
theorem floatToIntOverflow_fin (neg : Bool) (m : Nat) (e : Int) (hm : m < 2^53) :
    floatToIntOverflow (.fin neg m e) = !intRange 64 (F64.truncFin neg m e) := by
  have hm' : (m : Int) < 9223372036854775808 := Int.ofNat_lt.mpr (Nat.lt_trans hm (by decide))
  -- ±2^63 is farther from zero than a mantissa below 2^53, so comparing the float is comparing its truncation
  simp only [floatToIntOverflow, Extracted.guard_floatToInt_overflow, F64.isNaN, F64.ltInt, F64.geInt, Bool.false_or,
    F64.finLtInt_eq_trunc neg m e (-9223372036854775808) (.inr (.inr (Int.neg_le_neg (Int.le_of_lt hm')))),
    F64.finLtInt_eq_trunc neg m e 9223372036854775808 (.inr (.inl hm')), intRange64]
  rw [Bool.eq_iff_iff]
  simp only [Bool.or_eq_true, Bool.not_eq_true', Bool.and_eq_false_iff, decide_eq_true_eq, decide_eq_false_iff_not]
  rw [Int.not_le]

theorem float_toInt_guard_iff (neg : Bool) (m : Nat) (e : Int) (hm : m < 2^53) :
    floatToIntOverflow (.fin neg m e) = false ↔ intRange 64 (F64.truncFin neg m e) = true := by
  rw [floatToIntOverflow_fin neg m e hm, Bool.not_eq_false']

theorem goInt64_of_inRange (neg : Bool) (m : Nat) (e : Int)
    (h : intRange 64 (F64.truncFin neg m e) = true) :
    goInt64OfFloat (.fin neg m e) = F64.truncFin neg m e := by
  simp only [intRange64, Bool.and_eq_true, decide_eq_true_eq] at h
  exact if_pos ⟨h.1, Int.le_of_lt_add_one h.2⟩

/-- A float passes `math.IsNaN(f) || f < MinInt64 || MaxInt64 <= f` exactly when it is finite and its truncation
toward zero is an int64, and Go's `int64(f)` is then that truncation.  Both (*cfgFloat).toInt and the float case of
reifyDuration are this check. -/
theorem int64_of_float (b : Nat) :
    (if floatToIntOverflow (F64.decode b) then Outcome.raiseRaw .overflow else .ok (goInt64OfFloat (F64.decode b))) =
      (match F64.decode b with
       | .fin neg m e =>
         if intRange 64 (F64.truncFin neg m e) then Outcome.ok (F64.truncFin neg m e) else Outcome.raiseRaw .overflow
       | _ => Outcome.raiseRaw .overflow) := by
  cases hd : F64.decode b with
  | nan => rfl
  | inf neg => cases neg <;> rfl
  | fin neg m e =>
    simp only [floatToIntOverflow_fin neg m e (F64.decode_fin_bound hd)]
    cases hr : intRange 64 (F64.truncFin neg m e) with
    | false => rfl
    | true => simp only [Bool.not_true, Bool.false_eq_true, if_false, if_true, goInt64_of_inRange neg m e hr]

/-- (*cfgFloat).toInt: a float converts exactly when it is finite and its truncation toward
zero is an int64, and then the result is that truncation — NaN, ±Inf and everything at or
beyond ±2^63 are errors. -/
theorem float_toInt (b : Nat) :
    toOpt (Prim.toInt (.float b)) =
      (match F64.decode b with
       | .fin neg m e => if intRange 64 (F64.truncFin neg m e) then some (F64.truncFin neg m e) else none
       | _ => none) := by
  simp only [Prim.toInt, int64_of_float]
  split
  · split <;> rfl
  · rfl

/-- reifyInt: convert with value.toInt, then check the range of the target -/
theorem reify_int (std : Stdlib) (bits : Nat) (p : Prim) :
    toOpt (reifyPrim std (.int bits) p) =
      (toOpt p.toInt).bind fun i => if intRange bits i then some (.int i) else none := by
  simp only [reifyPrim, toOpt_wrap, toOpt_bind, toOpt_check, overflowInt_eq]
  cases toOpt p.toInt with
  | none => rfl
  | some i => dsimp only [Option.bind]; cases intRange bits i <;> rfl

/-- beyond int64 a value is in no signed range of at most 64 bits -/
theorem intRange_beyond (bits : Nat) (x : Int) (hb : bits ≤ 64) (hx : x > 9223372036854775807) :
    intRange bits x = false := by
  have h : (2 : Int) ^ (bits - 1) ≤ 9223372036854775808 := by
    have := Int.ofNat_le.mpr (Nat.pow_le_pow_right (n := 2) (by decide) (show bits - 1 ≤ 63 by omega))
    rwa [Int.natCast_pow] at this
  unfold intRange
  rw [Bool.and_eq_false_iff, decide_eq_false_iff_not, decide_eq_false_iff_not]
  exact .inr (Int.not_lt.mpr (Int.le_trans h hx))

/-- Unpacking any primitive setting into a signed integer of 8, 16, 32 or 64 bits stores the
setting's exact value (floats truncated toward zero) when it lies in the target's range and
fails otherwise. -/
theorem reify_int_meets_spec (std : Stdlib) (bits : Nat) (p : Prim)
    (hb : bits = 8 ∨ bits = 16 ∨ bits = 32 ∨ bits = 64) :
    toOpt (reifyPrim std (.int bits) p) = specConv std (.int bits) p := by
  rw [reify_int]
  cases p with
  | nil => rfl
  | bool b => rfl
  | int i => rfl
  | uint u =>
    simp only [Prim.toInt, Extracted.guard_uintToInt_overflow, specConv]
    by_cases hu : (u : Int) > 9223372036854775807
    · -- beyond int64 the guard of (*cfgUint).toInt fires; no target is wider
      have : intRange bits (u : Int) = false :=
        intRange_beyond bits u (by rcases hb with rfl | rfl | rfl | rfl <;> decide) hu
      simp [hu, this]
    · simp [hu]
  | float b =>
    rw [float_toInt]
    simp only [specConv]
    cases F64.decode b with
    | fin neg m e => dsimp only; cases intRange 64 (F64.truncFin neg m e) <;> rfl
    | _ => rfl
  | str s =>
    simp only [Prim.toInt, specConv]
    cases IntLit.parseIntS s <;> rfl

/-- … in particular nothing ever wraps: a stored integer is the value the specification gives. -/
theorem int_never_wraps (std : Stdlib) (bits : Nat) (p : Prim) (v : Scalar)
    (hb : bits = 8 ∨ bits = 16 ∨ bits = 32 ∨ bits = 64)
    (h : reifyPrim std (.int bits) p = .ok v) : specConv std (.int bits) p = some v := by
  rw [← reify_int_meets_spec std bits p hb, h]; rfl

theorem truncFin_of_nonneg (neg : Bool) (m : Nat) (e : Int) (hnn : (neg && m != 0) = false) :
    F64.truncFin neg m e = F64.truncMag m e := by
  cases neg with
  | false => rfl
  | true =>
    have : m = 0 := by simpa using hnn
    subst this
    unfold F64.truncFin F64.truncMag
    split <;> simp [F64.sgn]

/-- `math.IsNaN(f) || f >= MaxUint64` is false on a non-negative value exactly when the truncation is a uint64 -/
theorem floatToUintOverflow_fin (neg : Bool) (m : Nat) (e : Int) (hm : m < 2^53) (hnn : (neg && m != 0) = false) :
    floatToUintOverflow (.fin neg m e) = !uintRange 64 (F64.truncMag m e : Int) := by
  simp only [floatToUintOverflow, Extracted.guard_floatToUint_overflow, F64.isNaN, F64.geInt, Bool.false_or,
    F64.finLtInt_eq_trunc neg m e 18446744073709551616 (.inr (.inl (Int.ofNat_lt.mpr (Nat.lt_trans hm (by decide))))), truncFin_of_nonneg neg m e hnn,
    uintRange, Int.natCast_nonneg, decide_true, Bool.true_and]
  rfl

theorem guard_toUint_overflow_iff (m : Nat) (e : Int) (neg : Bool) (hm : m < 2^53) (hnn : (neg && m != 0) = false) :
    floatToUintOverflow (.fin neg m e) = false ↔ uintRange 64 (F64.truncMag m e : Int) = true := by
  rw [floatToUintOverflow_fin neg m e hm hnn, Bool.not_eq_false']

theorem goUint64_of_inRange (neg : Bool) (m : Nat) (e : Int)
    (h : uintRange 64 (F64.truncMag m e : Int) = true) :
    goUint64OfFloat (.fin neg m e) = F64.truncMag m e := by
  simp only [uintRange, Bool.and_eq_true, decide_eq_true_eq] at h
  exact if_pos (by unfold maxU64; omega)

/-- (*cfgFloat).toUint: negative values (however small), NaN, ±Inf and everything at or beyond
2^64 are errors; every other float converts to its truncation toward zero. -/
theorem float_toUint (b : Nat) :
    toOpt (Prim.toUint (.float b)) =
      (match F64.decode b with
       | .fin neg m e =>
         if neg && m != 0 then none
         else if uintRange 64 (F64.truncMag m e : Int) then some (F64.truncMag m e) else none
       | _ => none) := by
  simp only [Prim.toUint]
  cases hd : F64.decode b with
  | nan => rfl
  | inf neg => cases neg <;> rfl
  | fin neg m e =>
    simp only [Extracted.guard_floatToUint_negative, F64.ltInt, F64.finLtInt_zero]
    cases hn : (neg && m != 0) with
    | true => rfl
    | false =>
      simp only [floatToUintOverflow_fin neg m e (F64.decode_fin_bound hd) hn]
      cases hr : uintRange 64 (F64.truncMag m e : Int) with
      | false => rfl
      | true => simp [goUint64_of_inRange neg m e hr]

/-! ### durations: numbers mean seconds and never overflow silently -/

/-- reifyDuration, then the typed wrapping of its error -/
theorem reify_duration (std : Stdlib) (p : Prim) :
    toOpt (reifyPrim std .duration p) = (toOpt (reifyDuration std p)).map .dur := by
  simp only [reifyPrim, toOpt_wrap, toOpt_bind]
  cases toOpt (reifyDuration std p) <;> rfl

/-- the bound on whole seconds is the int64 range of the nanoseconds -/
theorem durGuard_iff (i : Int) :
    (i > maxDurationSeconds ∨ i < -maxDurationSeconds) ↔ intRange 64 (i * 1000000000) = false := by
  rw [show maxDurationSeconds = 9223372036 from rfl, intRange64]
  simp only [Bool.and_eq_false_iff, decide_eq_false_iff_not]
  omega

theorem duration_int (std : Stdlib) (i : Int) :
    toOpt (reifyPrim std .duration (.int i)) = specConv std .duration (.int i) := by
  simp only [reify_duration, reifyDuration, toOpt_check, Bool.or_eq_true, decide_eq_true_eq, durGuard_iff, specConv]
  cases intRange 64 (i * 1000000000) <;> rfl

theorem duration_uint (std : Stdlib) (u : Nat) :
    toOpt (reifyPrim std .duration (.uint u)) = specConv std .duration (.uint u) := by
  -- an unsigned count of seconds cannot be below the negative bound
  have h : (u : Int) > maxDurationSeconds ↔ intRange 64 ((u : Int) * 1000000000) = false := by
    rw [← durGuard_iff, show maxDurationSeconds = 9223372036 from rfl]; omega
  simp only [reify_duration, reifyDuration, toOpt_check, h, specConv]
  cases intRange 64 ((u : Int) * 1000000000) <;> rfl

/-- float seconds: trunc(float64(f·1e9)) when that is an int64, an error otherwise (NaN, ±Inf, too large) -/
theorem duration_float (std : Stdlib) (b : Nat) :
    toOpt (reifyPrim std .duration (.float b)) = specConv std .duration (.float b) := by
  have h := int64_of_float (F64.mul b secondBits)
  simp only [reify_duration, reifyDuration, specConv]
  rw [show ∀ f : F64, (f.isNaN || F64.ltInt f minI64 || F64.geInt f twoP63) = floatToIntOverflow f from fun _ => rfl, h]
  cases F64.decode (F64.mul b secondBits) with
  | fin neg m e => dsimp only; cases intRange 64 (F64.truncFin neg m e) <;> rfl
  | _ => rfl

/-! `0x43E0000000000000` is 2^63, the first float that is no int64; `0x4000000000000000` is 2.0 -/
example : toOpt (Prim.toInt (.float 0x43E0000000000000)) = none := by
  rw [float_toInt]; decide +kernel
example : toOpt (Prim.toInt (.float 0x4000000000000000)) = some 2 := by
  rw [float_toInt]; decide +kernel

end Ucfg.C03
