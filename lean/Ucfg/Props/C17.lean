import Ucfg.Model.Parse
import Ucfg.Lemmas.Outcome
/-
  C17 — parse.Value accepts every JSON value and reads it back faithfully.
  (C07 shares `value_never_panics`.)
-/
namespace Ucfg.C17
open Ucfg Ucfg.Parse Outcome

theorem parseStringDQuote_noPanic (c : Char) (r : List Char) : (parseStringDQuote (c :: r)).isPanic = false := by
  unfold parseStringDQuote
  simp only
  split
  · rfl
  · split <;> rfl

theorem parseStringSQuote_noPanic (c : Char) (r : List Char) : (parseStringSQuote (c :: r)).isPanic = false := by
  unfold parseStringSQuote
  simp only
  split <;> rfl

theorem parseNonQuoted_noPanic (stop inp : List Char) : (parseNonQuotedString stop inp).isPanic = false := by
  unfold parseNonQuotedString
  split
  · rfl
  · split <;> rfl

theorem parseKey_noPanic (inp : List Char) : (parseKey inp).isPanic = false := by
  unfold parseKey
  split
  · rfl
  · exact parseStringDQuote_noPanic _ _
  · exact parseStringSQuote_noPanic _ _
  · exact parseNonQuoted_noPanic _ _

/-- the five mutually recursive parsers at one amount of fuel; the functions that index `p.input[0]`
unguarded are only ever called on input that is not empty -/
theorem allNoPanic (std : Stdlib) (cfg : ParseCfg) : ∀ n,
    (∀ stop inp, (parseValue std cfg n stop inp).isPanic = false) ∧
    (∀ c r, (parseArray std cfg n (c :: r)).isPanic = false) ∧
    (∀ acc inp, (arrayLoop std cfg n acc inp).isPanic = false) ∧
    (∀ c r, (parseObj std cfg n (c :: r)).isPanic = false) ∧
    (∀ acc inp, (objLoop std cfg n acc inp).isPanic = false) := by
  intro n
  induction n with
  | zero => exact ⟨fun _ _ => rfl, fun _ _ => rfl, fun _ _ => rfl, fun _ _ => rfl, fun _ _ => rfl⟩
  | succ n ih =>
    obtain ⟨hv, ha, hal, ho, hol⟩ := ih
    refine ⟨?_, ?_, ?_, ?_, ?_⟩
    · intro stop inp
      unfold parseValue
      cases trimLeft inp with
      | nil => rfl
      | cons c r =>
        -- by the first character, as in the model: '[', '{', '"', '\'', anything else (a primitive)
        exact ite_noPanic (fun _ => ha c r) fun _ => ite_noPanic (fun _ => ho c r) fun _ =>
          ite_noPanic (fun _ => bind_noPanic (parseStringDQuote_noPanic c r) fun _ => rfl) fun _ =>
          ite_noPanic (fun _ => bind_noPanic (parseStringSQuote_noPanic c r) fun _ => rfl) fun _ =>
          bind_noPanic (parseNonQuoted_noPanic _ _) fun _ => rfl
    · intro c r
      exact bind_noPanic (hal _ _) fun _ => rfl
    · intro acc inp
      unfold arrayLoop
      cases trimLeft inp with
      | nil => rfl
      | cons c rest =>
        -- ']' closes; otherwise an element, then ']' closes, ',' goes round again, anything else is an error
        refine ite_noPanic (fun _ => rfl) fun _ => bind_noPanic (hv _ _) fun (v, r1) => ?_
        dsimp only
        cases trimLeft r1 with
        | nil => rfl
        | cons nxt r2 =>
          exact ite_noPanic (fun _ => rfl) fun _ => ite_noPanic (fun _ => hal _ _) fun _ => rfl
    · intro c r
      exact bind_noPanic (hol _ _) fun _ => rfl
    · intro acc inp
      unfold objLoop
      cases trimLeft inp with
      | nil => rfl
      | cons c rest =>
        -- '}' closes; otherwise a key, ':' (its absence is an error), a value, then '}' / ',' / error as for arrays
        refine ite_noPanic (fun _ => rfl) fun _ => bind_noPanic (parseKey_noPanic _) fun (k, r1) => ?_
        dsimp only
        split
        · refine bind_noPanic (hv _ _) fun (v, r3) => ?_
          cases trimLeft r3 with
          | nil => rfl
          | cons nxt r4 =>
            exact ite_noPanic (fun _ => rfl) fun _ => ite_noPanic (fun _ => hol _ _) fun _ => rfl
        · rfl

theorem topLoop_noPanic (std : Stdlib) (cfg : ParseCfg) :
    ∀ n acc inp, (topLoop std cfg n acc inp).isPanic = false := by
  intro n
  induction n with
  | zero => intros; rfl
  | succ n ih =>
    intro acc inp
    refine bind_noPanic ((allNoPanic std cfg (n + 1)).1 _ _) fun (v, r1) => ?_
    dsimp only
    cases trimLeft r1 with
    | nil => rfl
    | cons c r2 => exact ite_noPanic (fun _ => ih _ _) fun _ => rfl

/-- ValueWithConfig is the top-level loop followed by the collapse of its list of values.  The fuel `4 * len + 8` is the
model's (Model/Parse.lean `valueWithConfig`); nothing proved here depends on it: `topLoop_noPanic` holds at every fuel. -/
theorem valueWithConfig_eq (std : Stdlib) (s : String) (cfg : ParseCfg) :
    valueWithConfig std s cfg =
      if !cfg.array && cfg.object then raiseRaw .other
      else topLoop std cfg (4 * (trimSpace s.toList).length + 8) [] (trimSpace s.toList) >>= fun
        | [] => .ok .nil
        | [v] => .ok v
        | vs => .ok (.arr vs) := by
  unfold valueWithConfig
  split
  · rfl
  · dsimp only
    cases topLoop std cfg _ [] _ with
    | ok vs =>
      cases vs with
      | nil => rfl
      | cons _ r => cases r <;> rfl
    | _ => rfl

/-- parse.Value / ValueWithConfig never panics: for every input string, every parser
configuration and every behaviour of strconv.ParseFloat.  (On the Go side this is
the statement that every `p.input[0]` is guarded.) -/
theorem value_never_panics (std : Stdlib) (s : String) (cfg : ParseCfg) :
    (valueWithConfig std s cfg).isPanic = false := by
  rw [valueWithConfig_eq]
  refine ite_noPanic (fun _ => rfl) fun _ => bind_noPanic (topLoop_noPanic std cfg _ _ _) fun vs => ?_
  split <;> rfl

/-- **IgnoreCommas**: the top-level loop is one `parseValue` to the end of the text - no comma is a stop character
and nothing may follow the value -/
theorem topLoop_ignoreCommas (std : Stdlib) (cfg : ParseCfg) (hc : cfg.ignoreCommas = true) (n : Nat)
    (acc : List Data) (inp : List Char) :
    topLoop std cfg (n + 1) acc inp = parseValue std cfg (n + 1) [] inp >>= fun (v, r1) =>
      if (trimLeft r1).isEmpty then .ok (acc ++ [v]) else raiseRaw .other := by
  rw [topLoop]
  simp only [hc, if_true, Bool.not_true, Bool.and_false, Bool.false_eq_true, if_false]
  congr 1
  funext (v, r1)
  cases trimLeft r1 <;> rfl

/-- under IgnoreCommas the top-level loop returns exactly one value - the first one - or fails; no comma builds a
list, after a quoted string, an array or an object either (D49) -/
theorem ignoreCommas_single (std : Stdlib) (cfg : ParseCfg) (hc : cfg.ignoreCommas = true) :
    ∀ n inp vs, topLoop std cfg n [] inp = .ok vs → vs.length = 1 := by
  intro n inp vs h
  cases n with
  | zero => cases h
  | succ n =>
    rw [topLoop_ignoreCommas std cfg hc] at h
    obtain ⟨⟨v, r1⟩, _, h⟩ := bind_eq_ok h
    dsimp only at h
    split at h <;> cases h
    rfl

/-- hence under IgnoreCommas what `ValueWithConfig` returns is the value `parseValue` read from the start of the
text, never a list assembled from several values -/
theorem ignoreCommas_value_is_first (std : Stdlib) (s : String) (cfg : ParseCfg) (hc : cfg.ignoreCommas = true)
    (d : Data) (h : valueWithConfig std s cfg = .ok d) :
    ∃ n, topLoop std cfg n [] (trimSpace s.toList) = .ok [d] := by
  rw [valueWithConfig_eq] at h
  split at h
  · cases h
  · obtain ⟨vs, hvs, h⟩ := bind_eq_ok h
    have hl := ignoreCommas_single std cfg hc _ _ _ hvs
    match vs, hl, h with
    | [v], _, h => cases h; exact ⟨_, hvs⟩

/-- a configuration with objects enabled but arrays disabled is rejected -/
theorem invalid_config_rejected (std : Stdlib) (s : String) (cfg : ParseCfg)
    (h : cfg.array = false ∧ cfg.object = true) : (valueWithConfig std s cfg).isErr = true := by
  unfold valueWithConfig
  simp [h.1, h.2, isErr, raiseRaw]

/-! double-quoted strings without escapes are read back verbatim -/

def Plain (s : List Char) : Prop := ∀ c ∈ s, c ≠ '"' ∧ c ≠ '\\' ∧ c ≠ '\n'

theorem unquoteBody_plain (acc s : List Char) (h : Plain s) :
    unquoteBody .norm acc (s ++ ['"']) = .ok (acc.reverse ++ s) := by
  induction s generalizing acc with
  | nil => simp [unquoteBody]
  | cons c r ih =>
    have hc := h c List.mem_cons_self
    have hr : Plain r := fun x hx => h x (List.mem_cons_of_mem _ hx)
    rw [List.cons_append, unquoteBody]
    simp only [beq_iff_eq, hc.1, hc.2.1, hc.2.2, if_false]
    rw [ih _ hr]
    simp

theorem scanDQ_plain (pre s rest : List Char) (h : Plain s) (hpre : trailingBackslashes pre = 0) :
    scanDQ pre (s ++ '"' :: rest) = some (('"' :: pre.reverse) ++ s ++ ['"'], rest) := by
  induction s generalizing pre with
  | nil => simp [scanDQ, hpre]
  | cons c r ih =>
    have hc := h c List.mem_cons_self
    have hr : Plain r := fun x hx => h x (List.mem_cons_of_mem _ hx)
    simp only [List.cons_append, scanDQ]
    have : (c == '"') = false := by simp [hc.1]
    simp only [this, Bool.false_and, Bool.false_eq_true, if_false]
    rw [ih (c :: pre) hr]
    · simp
    · -- `c` is no backslash, so none trails
      unfold trailingBackslashes
      split
      · rename_i heq; cases heq; exact absurd rfl hc.2.1
      · rfl

/-- the string parser returns exactly the text between the quotes -/
theorem parseStringDQuote_plain (s rest : List Char) (h : Plain s) :
    parseStringDQuote ('"' :: s ++ '"' :: rest) = .ok (String.ofList s, rest) := by
  unfold parseStringDQuote
  simp only [List.cons_append]
  rw [scanDQ_plain [] s rest h rfl]
  simp only [List.reverse_nil, List.cons_append, List.nil_append]
  unfold unquote
  have : (s ++ ['"']).isEmpty = false := by cases s <;> rfl
  simp only [this, Bool.false_eq_true, if_false]
  rw [unquoteBody_plain [] s h]
  simp

/-! non-vacuity (small inputs as character lists; kernel evaluation of long `String`
literals is avoided on purpose) -/
example : (parseValue default {} 5 [','] ['[', '1', ',', 'a', ']']).isOk = true := by decide +kernel
example : (parseValue default {} 5 [','] ['[']).isErr = true := by decide +kernel
example : (parseValue default {} 5 [','] ['{', 'a', ':', '1', ',']).isErr = true := by decide +kernel
example : Plain ['a', 'b'] := by intro c hc; simp at hc; rcases hc with rfl | rfl <;> decide

end Ucfg.C17
