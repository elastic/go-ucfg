import Ucfg.Lemmas.Dict
/-
  Dictionaries built by `dset` from the empty one are strictly sorted by key, hence without duplicates; what `dset`
  does to a sorted dictionary (a key above all others is appended, a setting written again changes nothing), and a
  `foldl` of `dset` over a list of entries: the result is sorted and holds each entry under its key.
-/
namespace Ucfg

/-- `k` is below every key of `d` -/
def dBelow (k : String) (d : Dict) : Bool := d.all (fun e => decide (k < e.1))

def dSorted : Dict → Bool
  | [] => true
  | (k, _) :: r => dBelow k r && dSorted r

theorem dBelow_iff (k : String) (d : Dict) : dBelow k d = true ↔ ∀ e ∈ d, k < e.1 := by
  simp only [dBelow, List.all_eq_true, decide_eq_true_eq]

theorem dset_eq_ains (d : Dict) (k : String) (v : Val) : dset d k v = ains d k v := by
  induction d with
  | nil => rfl
  | cons e r ih => simp only [dset, ains, ih]

theorem dSorted_iff (d : Dict) : dSorted d = true ↔ KeysSorted d := by
  induction d with
  | nil => simp [dSorted]
  | cons e r ih => simp only [dSorted, Bool.and_eq_true, dBelow_iff, ih, KeysSorted, List.pairwise_cons]

theorem dset_sorted (d : Dict) (k : String) (v : Val) (hs : dSorted d = true) : dSorted (dset d k v) = true := by
  rw [dset_eq_ains, dSorted_iff]
  exact ains_sorted k v ((dSorted_iff d).mp hs)

theorem dSorted_nodup (d : Dict) (hs : dSorted d = true) : (dkeysOf d).Nodup :=
  ((dSorted_iff d).mp hs).nodup

theorem dset_append_max : ∀ (d : Dict) (k : String) (v : Val), (∀ e ∈ d, e.1 < k) → dset d k v = d ++ [(k, v)] := by
  intro d
  induction d with
  | nil => intro _ _ _; rfl
  | cons e r ih =>
    intro k v h
    obtain ⟨k', v'⟩ := e
    have hlt : k' < k := h (k', v') List.mem_cons_self
    have hne : ¬ k = k' := fun e => by rw [e] at hlt; exact String.lt_irrefl _ hlt
    rw [dset, if_neg hne, if_neg (String.lt_asymm hlt), List.cons_append,
      ih k v fun e he => h e (List.mem_cons_of_mem _ he)]

theorem dset_same : ∀ (d : Dict) (k : String) (v : Val), dSorted d = true → dget d k = some v → dset d k v = d := by
  intro d
  induction d with
  | nil => intro _ _ _ h; simp [dget] at h
  | cons e r ih =>
    intro k v hs h
    obtain ⟨k', v'⟩ := e
    simp only [dSorted, Bool.and_eq_true] at hs
    obtain ⟨hb, hsr⟩ := hs
    rw [dBelow_iff] at hb
    by_cases hk : k' = k
    · subst hk
      simp only [dget, if_true, Option.some.injEq] at h
      simp [dset, h]
    · simp only [dget, hk, if_false] at h
      have hk2 : ¬ k = k' := fun e => hk e.symm
      have hlt : k' < k := hb (k, v) ((dget_eq_some_iff_mem (dSorted_nodup r hsr)).mp h)
      have hnlt : ¬ k < k' := fun h' => String.lt_irrefl _ (String.lt_trans h' hlt)
      simp only [dset, hk2, hnlt, if_false]
      rw [ih k v hsr h]

theorem dset_ne_nil (d : Dict) (k : String) (v : Val) : dset d k v ≠ [] :=
  dset_eq_ains d k v ▸ ains_ne_nil d k v

theorem dSorted_foldl_dset {β : Type} (key : β → String) (val : β → Val) : ∀ (l : List β) (d : Dict),
    dSorted d = true → dSorted (l.foldl (fun d b => dset d (key b) (val b)) d) = true := by
  intro l
  induction l with
  | nil => intro _ h; exact h
  | cons _ r ih => intro d h; exact ih _ (dset_sorted d _ _ h)

theorem dget_foldl_dset_of_not_mem {β : Type} (key : β → String) (val : β → Val) : ∀ (l : List β) (d : Dict) (k : String),
    k ∉ l.map key → dget (l.foldl (fun d b => dset d (key b) (val b)) d) k = dget d k := by
  intro l
  induction l with
  | nil => intro _ _ _; rfl
  | cons b r ih =>
    intro d k h
    simp only [List.map_cons, List.mem_cons, not_or] at h
    rw [List.foldl_cons, ih _ k h.2, dget_dset_other (Ne.symm h.1)]

theorem dget_foldl_dset_of_mem {β : Type} (key : β → String) (val : β → Val) : ∀ (l : List β) (d : Dict) (b : β),
    (l.map key).Nodup → b ∈ l → dget (l.foldl (fun d b => dset d (key b) (val b)) d) (key b) = some (val b) := by
  intro l
  induction l with
  | nil => intro _ _ _ hb; cases hb
  | cons x r ih =>
    intro d b hnd hb
    simp only [List.map_cons, List.nodup_cons] at hnd
    rw [List.foldl_cons]
    rcases List.mem_cons.mp hb with rfl | hb
    · rw [dget_foldl_dset_of_not_mem key val r _ _ hnd.1, dget_dset_same]
    · exact ih _ b hnd.2 hb

end Ucfg
