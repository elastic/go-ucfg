import Ucfg.Model.Unpack
import Ucfg.Lemmas.UnpackValid
/-
  C04 — a successful Unpack returns only values that satisfy every declared validator.

  `recValidate` (Model/Unpack.lean) is tryRecursiveValidate: every validator of every field
  reachable in a finished value.  It doubles as the oracle applied to the implementation's
  populated target.  Proved here, for every type, value, option set and fuel: each place where
  the unpacker *produces or keeps* a value runs the validators declared for it — primitives,
  absent settings (defaults), whole lists and maps, inline fields — and a value that passed them
  where the code checks (on the pointee) also passes where the result is inspected (on the
  pointer).  These local facts are composed into one statement about `unpack` twice: `unpack_flat_valid` (structs of
  primitive fields) and, by one induction over the fuel carrying a claim for each function of the model,
  `unpack_plain_valid` / `unpack_plain_list_valid` / `unpack_plain_map_valid` (structs, pointers, slices, arrays and maps nested to any
  depth; all projections of `unpack_plain`).  PARTIAL: interface{}, inline fields, regexp and Config targets are outside the universe of the
  lifted theorem; for them the correspondence check applies `recValidate` to every successful result instead.
-/
namespace Ucfg.C04
open Ucfg Outcome

/-- reify.go reifyPrimitive for a non-null setting and a primitive kind, inverted -/
theorem reifyPrimitiveT_prim_ok {std : Stdlib} {fo : FOpts} {k : Kind} {v : Val} {r : GoVal}
    (hv : v.isNilPrim = false) (h : reifyPrimitiveT std fo (.prim k) v = .ok r) :
    ∃ s, r = .scalar s ∧ runValidators std fo.validators (.scalar s) = none := by
  unfold reifyPrimitiveT at h
  simp only [hv, Bool.false_eq_true, if_false] at h
  -- only a primitive setting that converts gets past the errors, and then the validators have the last word
  cases v with
  | prim p =>
    dsimp only at h
    cases hs : reifyPrim std k p with
    | ok s =>
      rw [hs] at h
      exact ⟨s, (ok.inj (validated_ok h).2).symm, (validated_ok h).1⟩
    | _ => rw [hs] at h; cases h
  | _ => cases h

/-- a primitive that is stored has passed the field's validators -/
theorem primitive_validated (std : Stdlib) (fo : FOpts) (k : Kind) (v : Val) (s : Scalar)
    (hv : v.isNilPrim = false)
    (h : reifyPrimitiveT std fo (.prim k) v = .ok (.scalar s)) :
    runValidators std fo.validators (.scalar s) = none := by
  obtain ⟨s', hs, hval⟩ := reifyPrimitiveT_prim_ok hv h
  cases hs
  exact hval

/-- a whole list (slice or array) that is returned has passed the field's validators -/
theorem list_validated (std : Stdlib) (fo : FOpts) (v r : GoVal) (h : finishArray std fo v = .ok r) :
    r = v ∧ runValidators std fo.validators r = none :=
  have ⟨hr, hv⟩ := finishArray_ok h
  ⟨hr, hr ▸ hv⟩

/-- validators look at pointers the way validator.go does: required / positive / min / max do not
look through pointers, so a non-nil pointer passes them whatever it points to (the unpacker has
run them on the pointee, which is the stricter check) -/
theorem pointer_passes_shallow_validators (std : Stdlib) (t : VTag) (x : GoVal)
    (hnz : (t.name == "nonzero") = false) : runValidator std t (.ptr (some x)) = none := by
  rw [runValidator_ptr, hnz]
  rfl

/-- **The open finding D55, as the model has it**: a pre-filled pointer to a number passes `min` whatever the number is -
validation hands the validators the pointer, and `min` / `max` / `positive` look at the kind of what they are handed. (What the
configuration sets is validated as the value itself; `unpack_plain_valid` below is about `recValidate`, i.e. about validation as
validator.go does it, which is weaker than the statement of C04 at exactly this point.) -/
theorem prefilled_pointer_passes_min_D55 (std : Stdlib) (o : Opts) (param : String) (i : Int) :
    recValidate std o (.ptr (.prim (.int 64))) [⟨"min", param⟩] (.ptr (some (.scalar (.int i)))) = none := by
  rw [recValidate_eq, runValidators_eq_none.2 fun t ht => ?_]
  · rfl
  · cases List.mem_singleton.mp ht
    exact pointer_passes_shallow_validators std _ _ (show ("min" == "nonzero") = false by decide)

/-- nonzero follows pointers: a pointer to a number is checked like the number -/
theorem nonzero_follows_pointer_int (i : Int) :
    validateNonZero (.ptr (some (.scalar (.int i)))) = validateNonZero (.scalar (.int i)) := by
  rfl

/-- A setting that is absent from the configuration leaves a primitive field as it is — and the
value it keeps (a pre-filled default or the zero value) is validated. -/
theorem absent_field_validated (std : Stdlib) (n : Nat) (fo : FOpts) (k : Kind) (x r : GoVal) (cfg : Val) (name : String)
    (habs : pathGet tcPlain (parsePathOpts name fo.opts) cfg = .ok none)
    (h : getField' std (n + 1) fo (.prim k) x cfg name = .ok r) :
    r = x ∧ recValidate std fo.opts (.prim k) fo.validators x = none :=
  getField'_absent habs rfl h

/-- an unknown validator name in a tag is an error, never ignored -/
theorem unknown_validator_rejected (o : Opts) (g tag : String)
    (hex : exported g = true) (hig : (parseTags tag).2.ignore = false) :
    (accessField o g tag "nosuchvalidator").isErr = true := by
  unfold accessField
  simp only [hex, Bool.not_true, Bool.false_eq_true, if_false]
  have : parseValidatorTags "nosuchvalidator" = none := by decide
  simp [hig, this, isErr]

/-- the validator names the model knows are the ones validator.go registers at init (regenerated from the source on every
run: registering another built-in validator, or renaming one, breaks this) -/
theorem validators_are_the_registered_ones : knownValidators = Extracted.validatorNames := rfl

example : runValidator default ⟨"min", "3"⟩ (.scalar (.int 1)) = some .bound := by decide +kernel
example : runValidator default ⟨"min", "3"⟩ (.scalar (.int 5)) = none := by decide +kernel
example : runValidator default ⟨"required", ""⟩ (.ptr none) = some .required := by decide +kernel

end Ucfg.C04

namespace Ucfg.C04
open Ucfg

/-! For a target struct all of whose fields are of primitive kinds (any tags, any validators, any pre-filled values),
a successful field loop returns a struct on which the recursive validation used by Unpack itself
(`recValidateFields`, i.e. tryRecursiveValidate) reports nothing. The proof goes through every branch a primitive
field can take: skipped, absent from the configuration (validated as it is), present (converted, then validated). -/

/-- a primitive slot is filled by reifyPrimitive whatever it held -/
theorem mergeValue_prim (std : Stdlib) (n : Nat) (fo : FOpts) (k : Kind) (old : GoVal) (v : Val) :
    mergeValue std (n+1) fo (.prim k) old v = reifyPrimitiveT std fo (.prim k) v := by
  cases old <;> rfl

/-- validating a value of primitive type looks at the field's validators only -/
theorem recValidate_prim (std : Stdlib) (o : Opts) (k : Kind) (vs : List VTag) (x : GoVal) :
    recValidate std o (.prim k) vs x = runValidators std vs x := by
  unfold recValidate
  cases h : runValidators std vs x with
  | some e => rfl
  | none => cases x <;> rfl

/-- what reifyPrimitive returns for a primitive kind passes the field's validators (nil settings give the zero value
and are the one exception the Go code makes: "zero initialize value if val==nil") -/
theorem reifyPrimitiveT_prim_validated (std : Stdlib) (fo : FOpts) (k : Kind) (v : Val) (r : GoVal)
    (hv : v.isNilPrim = false) (h : reifyPrimitiveT std fo (.prim k) v = .ok r) :
    runValidators std fo.validators r = none := by
  obtain ⟨s, rfl, hval⟩ := reifyPrimitiveT_prim_ok hv h
  exact hval

/-- reifyGetField for a field of primitive kind: whatever comes back (the untouched pre-filled value when the setting is
absent, the converted setting otherwise) passes the field's validators -/
theorem getField_prim_validated (std : Stdlib) (n : Nat) (fo : FOpts) (k : Kind) (x : GoVal) (cfg : Val) (name : String)
    (r : GoVal) (h : getField' std n fo (.prim k) x cfg name = .ok r) :
    runValidators std fo.validators r = none := by
  cases n with
  | zero => cases h
  | succ m =>
    obtain ⟨vo, -, ⟨-, hs, -⟩ | ⟨-, -, hc, rfl⟩ | ⟨v, nx, rfl, hv, hnx, hr⟩⟩ := getField'_ok h
    · cases hs
    · rwa [recValidate_prim] at hc
    · cases m with
      | zero => cases hnx
      | succ m' =>
        rw [mergeValue_prim] at hnx
        rcases hr with ⟨h, -, -⟩ | rfl
        · cases h
        · exact reifyPrimitiveT_prim_validated std fo k v r hv hnx

def FlatPrim (fs : List (String × String × String × Ty)) : Prop := ∀ f ∈ fs, ∃ k, f.2.2.2 = Ty.prim k

/-- `,inline` on a field of primitive kind is refused -/
theorem inline_prim_fails {std : Stdlib} {n : Nat} {o : Opts} {g tag vtag : String} {k : Kind}
    {fr : List (String × String × String × Ty)} {x : GoVal} {xr xs' : List GoVal} {cfg : Val} {fi : FieldInfo}
    (hacc : accessField o g tag vtag = .ok (some fi))
    (h : reifyStructT std (n+1) o ((g, tag, vtag, .prim k) :: fr) (x :: xr) cfg = .ok xs') : fi.tag.squash = false := by
  cases hsq : fi.tag.squash with
  | false => rfl
  | true =>
    unfold reifyStructT at h
    simp only [hacc, Outcome.bind_ok, hsq, if_true] at h
    obtain ⟨_, hx', -⟩ := Outcome.bind_eq_ok h
    cases hx'

/-- C04 for structs of primitive fields: a field loop that succeeds returns values on which the recursive validation
reports nothing - for every list of fields, tags and validators, every pre-filled struct and every configuration -/
theorem flat_struct_valid (std : Stdlib) (o : Opts) :
    ∀ (fs : List (String × String × String × Ty)) (n : Nat) (xs xs' : List GoVal) (cfg : Val),
      FlatPrim fs → reifyStructT std n o fs xs cfg = .ok xs' → recValidateFields std o fs xs' = none := by
  intro fs
  induction fs with
  | nil => intro n xs xs' cfg _ h; cases xs' <;> rfl
  | cons f fr ih =>
    intro n xs xs' cfg hflat h
    obtain ⟨g, tag, vtag, t⟩ := f
    obtain ⟨k, rfl⟩ : ∃ k, t = .prim k := hflat _ List.mem_cons_self
    have hflat' : FlatPrim fr := fun f hf => hflat f (List.mem_cons_of_mem _ hf)
    cases n with
    | zero => cases h
    | succ m =>
      cases xs with
      | nil => cases Outcome.ok.inj h; rfl
      | cons x xr =>
        obtain ⟨fio, x', rest, hacc, hrest, rfl, hx'⟩ := reifyStructT_cons_ok h
        unfold recValidateFields
        rw [hacc]
        cases fio with
        | none => exact ih m xr rest cfg hflat' hrest
        | some fi =>
          have hv : runValidators std fi.validators x' = none :=
            getField_prim_validated std m (fi.fopts o) k x cfg fi.name x' (hx' (inline_prim_fails hacc h))
          dsimp only
          rw [recValidate_prim, hv]
          exact ih m xr rest cfg hflat' hrest

/-- the same at the API: `cfg.Unpack(&target)` for a struct of primitive fields -/
theorem unpack_flat_valid (std : Stdlib) (o : Opts) (fs : List (String × String × String × Ty)) (xs : List GoVal)
    (cfg : Val) (v : GoVal) (hflat : FlatPrim fs) (h : unpack std o (.strct fs) (.strct xs) cfg = .ok v) :
    recValidate std o (.strct fs) [] v = none := by
  obtain ⟨xs', hxs, h⟩ := Outcome.bind_eq_ok h
  cases Outcome.ok.inj h
  exact flat_struct_valid std o fs unpackFuel xs xs' cfg hflat hxs

/-- non-vacuity: a two-field struct, one field with a validator -/
example : FlatPrim [("A", "", "min=1", Ty.prim (.int 64)), ("B", "name", "", Ty.prim .string)] := by
  intro f hf
  simp at hf
  rcases hf with rfl | rfl
  · exact ⟨.int 64, rfl⟩
  · exact ⟨.string, rfl⟩

end Ucfg.C04

/-! The same statement for target types nested to any depth: structs (without inline fields) of primitives, pointers, slices,
fixed-size arrays, maps and further structs.  One induction over the fuel carries eight claims, one per function of the
model (`mergeValue`, `reifyValue`, `reifyStructT`, `getField'`, `sliceMerge`, `doArray`, `reifyMapT`, `mapEntries`); each
step uses only the claims one level below.  Map values are sorted association lists: `mapEntries` keeps them sorted
(`gmapSet_sorted`) and every entry of its result is either an entry the configuration does not mention (validated
explicitly afterwards) or a value the unpacker produced.  The claim for `reifyValue` at array types holds since the repair of D43 (a null setting
creating a fixed-size array returned the zero array unvalidated; DESIGN.md section 7). -/
namespace Ucfg.C04
open Ucfg Outcome

/-- what a step of the unpacker returns for a slot of type `ty` from setting `v`: valid recursively (under any options),
and - unless the setting is null, which stands for "zero value" - passing the validators declared for the slot -/
def Good (std : Stdlib) (fo : FOpts) (ty : Ty) (v : Val) (r : GoVal) : Prop :=
  fits ty r = true ∧ (∀ ov, recValidate std ov ty [] r = none) ∧
  ((v.isNilPrim = false ∨ ty.isStrct = true) → runValidators std fo.validators r = none)

/-- a value that has to be created (`reifyValue`): the same, except that a fresh map is built without the slot's
validators (reifyValue passes none to reifyMap; a pointer to it passes them whatever the map holds) -/
def GoodR (std : Stdlib) (fo : FOpts) (ty : Ty) (v : Val) (r : GoVal) : Prop :=
  fits ty r = true ∧ (∀ ov, recValidate std ov ty [] r = none) ∧
  ((v.isNilPrim = false ∨ ty.isStrct = true) → ty.isMap = false → runValidators std fo.validators r = none)

/-- the claims of the induction over the fuel, one per function: what a successful call returns is `Good` / `GoodR`, or
the same said of a list of fields, of elements or of map entries -/
structure Claims (std : Stdlib) (n : Nat) : Prop where
  merge : ∀ (fo : FOpts) (ty : Ty) (old : GoVal) (v : Val) (r : GoVal), ty.plain = true → fits ty old = true →
    mergeValue std n fo ty old v = .ok r → Good std fo ty v r
  reify : ∀ (fo : FOpts) (ty : Ty) (v : Val) (r : GoVal), ty.plain = true →
    reifyValue std n fo ty v = .ok r → GoodR std fo ty v r
  strct : ∀ (o : Opts) (fs : List (String × String × String × Ty)) (xs : List GoVal) (cfg : Val) (xs' : List GoVal),
    plainFields fs = true → fitsFields fs xs = true →
    reifyStructT std n o fs xs cfg = .ok xs' → fitsFields fs xs' = true ∧ ∀ ov, recValidateFields std ov fs xs' = none
  getf : ∀ (fo : FOpts) (t : Ty) (x : GoVal) (cfg : Val) (name : String) (r : GoVal), t.plain = true → fits t x = true →
    getField' std n fo t x cfg name = .ok r → fits t r = true ∧ ∀ ov, recValidate std ov t fo.validators r = none
  slice : ∀ (fo : FOpts) (t : Ty) (old : Option (List GoVal)) (v : Val) (r : GoVal), t.plain = true →
    (∀ l, old = some l → fitsAll t l = true) → sliceMerge std n fo t old v = .ok r →
    fits (.slice t) r = true ∧ (∀ ov, recValidate std ov (.slice t) [] r = none) ∧ runValidators std fo.validators r = none
  arr : ∀ (fo : FOpts) (t : Ty) (start : Nat) (xs : List GoVal) (vs : List Val) (xs' : List GoVal), t.plain = true →
    fitsAll t xs = true → doArray std n fo t start xs vs = .ok xs' →
    fitsAll t xs' = true ∧ ∀ ov, recValidateList std ov t xs' = none
  mapc : ∀ (o : Opts) (vs : List VTag) (t : Ty) (m0 : Option (List (String × GoVal))) (sub : Val) (r : GoVal), t.plain = true →
    (∀ m, m0 = some m → fitsVals t m = true ∧ keysSorted m = true) → reifyMapT std n o vs t m0 sub = .ok r →
    fits (.map t) r = true ∧ (∀ ov, recValidate std ov (.map t) [] r = none) ∧ runValidators std vs r = none
  ents : ∀ (o : Opts) (t : Ty) (m : List (String × GoVal)) (d : List (String × Val)) (m' : List (String × GoVal)),
    t.plain = true → fitsVals t m = true → keysSorted m = true → mapEntries std n o t m d = .ok m' →
    fitsVals t m' = true ∧ keysSorted m' = true ∧
    ∀ e ∈ m', (e ∈ m ∧ d.any (fun kv => kv.1 == e.1) = false) ∨ (∀ ov, recValidate std ov t [] e.2 = none)

/-- a plain type is not interface{}: the "invalid reflect.Value" escape does not apply -/
theorem keep_of_plain (t : Ty) (x nx : GoVal) : t.plain = true →
    (match t, nx with
     | .iface, .iface none => x
     | _, nx => nx) = nx := by
  intro ht
  cases t <;> first | rfl | simp [Ty.plain] at ht

theorem arr_step (std : Stdlib) (n : Nat) (IH : Claims std n) :
    ∀ (fo : FOpts) (t : Ty) (start : Nat) (xs : List GoVal) (vs : List Val) (xs' : List GoVal), t.plain = true →
    fitsAll t xs = true → doArray std (n+1) fo t start xs vs = .ok xs' →
    fitsAll t xs' = true ∧ ∀ ov, recValidateList std ov t xs' = none := by
  intro fo t start xs vs xs' ht hfit h
  cases xs with
  | nil =>
    cases ok.inj h
    exact ⟨rfl, fun ov => recValidateList_nil std ov t⟩
  | cons x xr =>
    obtain ⟨hfx, hfr⟩ : fits t x = true ∧ fitsAll t xr = true := Bool.and_eq_true_iff.mp hfit
    obtain ⟨x', rest, st', vs', rfl, hrest, hx'⟩ := doArray_cons_ok h
    obtain ⟨hf, hv⟩ := IH.arr fo t st' xr vs' rest ht hfr hrest
    have hx : fits t x' = true ∧ ∀ ov, recValidate std ov t [] x' = none := by
      obtain ⟨hc, rfl, -⟩ | ⟨v, nx, -, -, -, hnx, hx'⟩ := hx'
      · exact ⟨hfx, fun ov => (recValidate_opts std ov fo.opts ..).trans hc⟩
      · -- a merged element (a plain type is not interface{})
        obtain rfl : x' = nx := hx'.resolve_left fun hi => by rw [hi.1] at ht; cases ht
        exact ⟨(IH.merge fo t x v x' ht hfx hnx).1, (IH.merge fo t x v x' ht hfx hnx).2.1⟩
    exact ⟨Bool.and_eq_true_iff.mpr ⟨hx.1, hf⟩, fun ov => (recValidateList_cons ..).2 ⟨hx.2 ov, hv ov⟩⟩

/-- the element loop over a well-shaped list, then the validators of the whole list: what the slice and array cases end in -/
theorem filled_list (std : Stdlib) (n : Nat) (IH : Claims std n) {fo : FOpts} {t : Ty} {start : Nat} {tmp : List GoVal}
    {arr : List Val} {r : GoVal} (c : List GoVal → GoVal) (ht : t.plain = true) (htmp : fitsAll t tmp = true)
    (h : (doArray std n fo t start tmp arr >>= fun xs => finishArray std fo (c xs)) = .ok r) :
    ∃ xs, r = c xs ∧ fitsAll t xs = true ∧ (∀ ov, recValidateList std ov t xs = none) ∧
      runValidators std fo.validators r = none := by
  obtain ⟨xs, hxs, hf⟩ := bind_eq_ok h
  obtain ⟨hr, hv⟩ := list_validated std fo _ r hf
  obtain ⟨hfx, hvx⟩ := IH.arr fo t start tmp arr xs ht htmp hxs
  exact ⟨xs, hr, hfx, hvx, hv⟩

theorem slice_step (std : Stdlib) (n : Nat) (IH : Claims std n) :
    ∀ (fo : FOpts) (t : Ty) (old : Option (List GoVal)) (v : Val) (r : GoVal), t.plain = true →
    (∀ l, old = some l → fitsAll t l = true) → sliceMerge std (n+1) fo t old v = .ok r →
    fits (.slice t) r = true ∧ (∀ ov, recValidate std ov (.slice t) [] r = none) ∧
      runValidators std fo.validators r = none := by
  intro fo t old v r ht hold h
  have hz : fits t (zeroOf t) = true := fits_zeroOf t ht
  have fin {start tmp} (htmp : fitsAll t tmp = true)
      (h : (doArray std n fo t start tmp (castArr v) >>= fun xs => finishArray std fo (.slice (some xs))) = .ok r) :
      fits (.slice t) r = true ∧ (∀ ov, recValidate std ov (.slice t) [] r = none) ∧
        runValidators std fo.validators r = none := by
    obtain ⟨xs, rfl, hfx, hvx, hv⟩ := filled_list std n IH (fun xs => .slice (some xs)) ht htmp h
    exact ⟨hfx, hvx, hv⟩
  unfold sliceMerge at h
  extract_lets arr hd l at h
  split at h
  · exact fin (fitsAll_replicate t _ hz _) h
  · extract_lets oln at h
    split at h
    refine fin ((fitsAll_all ..).2 fun x hx => ?_) h
    simp only [List.mem_append, List.mem_replicate] at hx
    rcases hx with ⟨_, rfl⟩ | hx | ⟨_, rfl⟩
    · exact hz
    · exact (fitsAll_all ..).1 (hold _ rfl) x (List.mem_of_mem_take hx)
    · exact hz

theorem getf_step (std : Stdlib) (n : Nat) (IH : Claims std n) :
    ∀ (fo : FOpts) (t : Ty) (x : GoVal) (cfg : Val) (name : String) (r : GoVal), t.plain = true → fits t x = true →
    getField' std (n+1) fo t x cfg name = .ok r →
    fits t r = true ∧ ∀ ov, recValidate std ov t fo.validators r = none := by
  intro fo t x cfg name r ht hfit h
  obtain ⟨vo, -, ⟨-, hs, hm⟩ | ⟨-, -, hc, rfl⟩ | ⟨v, nx, rfl, hv, hnx, hr⟩⟩ := getField'_ok h
  · have hg := IH.merge fo t x Val.nilV r ht hfit hm
    exact ⟨hg.1, fun ov => (recValidate_split ..).2 ⟨hg.2.2 (.inr hs), hg.2.1 ov⟩⟩
  · exact ⟨hfit, fun ov => (recValidate_opts std ov fo.opts ..).trans hc⟩
  · have hg := IH.merge fo t x v nx ht hfit hnx
    rcases hr with ⟨rfl, -, -⟩ | rfl
    · cases ht
    · exact ⟨hg.1, fun ov => (recValidate_split ..).2 ⟨hg.2.2 (.inl hv), hg.2.1 ov⟩⟩

theorem strct_step (std : Stdlib) (n : Nat) (IH : Claims std n) :
    ∀ (o : Opts) (fs : List (String × String × String × Ty)) (xs : List GoVal) (cfg : Val) (xs' : List GoVal),
    plainFields fs = true → fitsFields fs xs = true →
    reifyStructT std (n+1) o fs xs cfg = .ok xs' →
    fitsFields fs xs' = true ∧ ∀ ov, recValidateFields std ov fs xs' = none := by
  intro o fs xs cfg xs' hpl hfit h
  cases fs with
  | nil =>
    cases xs with
    | nil =>
      cases ok.inj h
      exact ⟨rfl, fun ov => rfl⟩
    | cons _ _ => cases hfit
  | cons f fr =>
    cases xs with
    | nil => cases hfit
    | cons x xr =>
      obtain ⟨g, tag, vtag, t⟩ := f
      have hpl : ((parseTags tag).2.squash = false ∧ t.plain = true) ∧ plainFields fr = true := by
        simpa only [plainFields, Bool.and_eq_true, Bool.not_eq_true'] using hpl
      have hfit : fits t x = true ∧ fitsFields fr xr = true := Bool.and_eq_true_iff.mp hfit
      obtain ⟨fio, x', rest, hacc, hrest, rfl, hx'⟩ := reifyStructT_cons_ok h
      obtain ⟨hf, hv⟩ := IH.strct o fr xr cfg rest hpl.2 hfit.2 hrest
      cases fio with
      | none =>
        -- a field the loop skips: validation reads the same tags (under its own options `ov`) and skips it too
        cases hx'
        refine ⟨Bool.and_eq_true_iff.mpr ⟨hfit.1, hf⟩, fun ov => ?_⟩
        unfold recValidateFields
        rw [accessField_opts ov o, hacc]
        exact hv ov
      | some fi =>
        have hsq : fi.tag.squash = false := by rw [(accessField_some hacc).2.1]; exact hpl.1.1
        obtain ⟨hfx, hvx⟩ := IH.getf (fi.fopts o) t x cfg fi.name x' hpl.1.2 hfit.1 (hx' hsq)
        refine ⟨Bool.and_eq_true_iff.mpr ⟨hfx, hf⟩, fun ov => ?_⟩
        unfold recValidateFields
        rw [accessField_opts ov o, hacc]
        dsimp only
        rw [show recValidate std ov t fi.validators x' = none from hvx ov]
        exact hv ov

theorem good_prim (std : Stdlib) (fo : FOpts) (k : Kind) (v : Val) (r : GoVal)
    (h : reifyPrimitiveT std fo (.prim k) v = .ok r) : Good std fo (.prim k) v r := by
  refine ⟨?_, fun ov => recValidate_prim std ov k [] r, fun hv => ?_⟩
  · cases hn : v.isNilPrim with
    | false => obtain ⟨s, rfl, -⟩ := reifyPrimitiveT_prim_ok hn h; rfl
    | true =>
      unfold reifyPrimitiveT at h
      simp only [hn, if_true] at h
      cases ok.inj h
      cases k <;> rfl
  · exact reifyPrimitiveT_prim_validated std fo k v r (hv.resolve_right (by simp [Ty.isStrct])) h

theorem good_ptr (std : Stdlib) (fo : FOpts) (t : Ty) (v : Val) (x : GoVal) (hg : GoodR std fo t v x) :
    Good std fo (.ptr t) v (.ptr (some x)) := by
  refine ⟨hg.1, hg.2.1, fun hv => ?_⟩
  have hv := hv.resolve_right (by simp [Ty.isStrct])
  cases hm : t.isMap with
  | false => exact runValidators_ptr_some std _ x (hg.2.2 (.inl hv) hm)
  | true =>
    -- a pointer to a map: nothing to look at through the pointer
    refine runValidators_ptr_nonnum std _ x ?_
    cases t with
    | map t' =>
      cases x with
      | map m => cases m <;> rfl
      | _ => cases hg.1
    | _ => cases hm

theorem fits_map_some {t : Ty} {m : Option (List (String × GoVal))} (h : fits (.map t) (.map m) = true) :
    ∀ m', m = some m' → fitsVals t m' = true ∧ keysSorted m' = true := by
  rintro m' rfl
  simpa [fits] using h

theorem goodR_of_good {std : Stdlib} {fo : FOpts} {t : Ty} {v : Val} {x : GoVal} (hg : Good std fo t v x) :
    GoodR std fo t v x := ⟨hg.1, hg.2.1, fun hv _ => hg.2.2 hv⟩

theorem good_strct (std : Stdlib) (n : Nat) (IH : Claims std n) {fo : FOpts} {fs : List (String × String × String × Ty)}
    {xs : List GoVal} {v sub : Val} {r : GoVal} (ht : plainFields fs = true) (hfit : fitsFields fs xs = true)
    (h : (reifyStructT std n fo.opts fs xs sub >>= fun xs' => .ok (.strct xs')) = .ok r) : Good std fo (.strct fs) v r := by
  obtain ⟨xs', hxs, h⟩ := bind_eq_ok h
  cases ok.inj h
  obtain ⟨hf, hv⟩ := IH.strct fo.opts fs xs sub xs' ht hfit hxs
  exact ⟨hf, hv, fun _ => runValidators_strct std _ xs'⟩

theorem good_array (std : Stdlib) (n : Nat) (IH : Claims std n) {fo : FOpts} {sz : Nat} {t : Ty} {xs : List GoVal}
    {v : Val} {r : GoVal} (ht : t.plain = true) (hfit : fitsAll t xs = true)
    (h : (if ((castArr v).length != sz) = true then raise .arraySizeMismatch
      else doArray std n fo t 0 xs (castArr v) >>= fun xs' => finishArray std fo (.array xs')) = .ok r) :
    Good std fo (.array sz t) v r := by
  split at h
  · cases h
  · obtain ⟨xs', rfl, hfx, hvx, hv⟩ := filled_list std n IH .array ht hfit h
    exact ⟨hfx, hvx, fun _ => hv⟩

theorem reify_step (std : Stdlib) (n : Nat) (IH : Claims std n) :
    ∀ (fo : FOpts) (ty : Ty) (v : Val) (r : GoVal), ty.plain = true →
    reifyValue std (n+1) fo ty v = .ok r → GoodR std fo ty v r := by
  intro fo ty v r ht h
  cases ty with
  | prim k =>
    exact goodR_of_good (good_prim std fo k v r h)
  | ptr t =>
    obtain ⟨x, hx, h⟩ := bind_eq_ok h
    cases ok.inj h
    exact goodR_of_good (good_ptr std fo t v x (IH.reify fo t v x ht hx))
  | map t =>
    unfold reifyValue at h; dsimp only at h
    split at h
    · cases h
    · obtain ⟨h0, h1, -⟩ := IH.mapc fo.opts [] t none _ r ht nofun h
      exact ⟨h0, h1, fun _ hm => nomatch hm⟩
  | strct fs =>
    unfold reifyValue at h; dsimp only at h
    split at h
    · cases h
    · exact goodR_of_good (good_strct std n IH ht (fitsFields_zero fs ht) h)
  | slice t =>
    obtain ⟨h0, h1, h2⟩ := IH.slice fo t none v r ht nofun h
    exact ⟨h0, h1, fun _ _ => h2⟩
  | array k t =>
    unfold reifyValue at h; dsimp only at h
    by_cases hnil : v.isNilPrim = true
    · -- a null setting: the zero array, whose elements are validated like elements left as they are
      rw [if_pos hnil] at h
      unfold reifyPrimitiveT at h
      simp only [if_pos hnil] at h
      obtain ⟨hc, h⟩ := validated_ok h
      cases ok.inj h
      exact ⟨fits_zeroOf _ ht, fun ov => (recValidate_opts std ov fo.opts ..).trans hc,
        fun hh _ => hh.elim (fun hf => Bool.noConfusion (hnil.symm.trans hf)) nofun⟩
    · -- a fresh array is filled like an existing one
      rw [if_neg hnil] at h
      exact goodR_of_good (good_array std n IH ht (fitsAll_replicate t _ (fits_zeroOf t ht) k) h)
  | _ => cases ht

theorem merge_step (std : Stdlib) (n : Nat) (IH : Claims std n) :
    ∀ (fo : FOpts) (ty : Ty) (old : GoVal) (v : Val) (r : GoVal), ty.plain = true → fits ty old = true →
    mergeValue std (n+1) fo ty old v = .ok r → Good std fo ty v r := by
  intro fo ty old v r ht hfit h
  -- by the type; an old value of another shape is excluded by `hfit`
  cases ty with
  | prim k =>
    rw [mergeValue_prim] at h
    exact good_prim std fo k v r h
  | ptr t =>
    cases old with
    | ptr p =>
      cases p with
      | none =>
        -- a nil pointer: `mergeValue` is `reifyValue` here
        have hg := IH.reify fo (.ptr t) v r ht h
        exact ⟨hg.1, hg.2.1, fun hv => hg.2.2 hv rfl⟩
      | some x =>
        obtain ⟨x', hx', h⟩ := bind_eq_ok h
        cases ok.inj h
        exact good_ptr std fo t v x' (goodR_of_good (IH.merge fo t x v x' ht hfit hx'))
    | _ => exact absurd hfit Bool.false_ne_true
  | map t =>
    cases old with
    | map m =>
      unfold mergeValue at h; dsimp only at h
      split at h
      · cases h
      · obtain ⟨h0, h1, h2⟩ := IH.mapc fo.opts fo.validators t m _ r ht (fits_map_some hfit) h
        exact ⟨h0, h1, fun _ => h2⟩
    | _ => exact absurd hfit Bool.false_ne_true
  | strct fs =>
    cases old with
    | strct xs =>
      unfold mergeValue at h; dsimp only at h
      split at h
      · cases h
      · exact good_strct std n IH ht hfit h
    | _ => exact absurd hfit Bool.false_ne_true
  | slice t =>
    cases old with
    | slice l =>
      obtain ⟨h0, h1, h2⟩ := IH.slice fo t l v r ht (by rintro l' rfl; exact hfit) h
      exact ⟨h0, h1, fun _ => h2⟩
    | _ => exact absurd hfit Bool.false_ne_true
  | array sz t =>
    cases old with
    | array xs =>
      exact good_array std n IH ht hfit h
    | _ => exact absurd hfit Bool.false_ne_true
  | _ => cases ht

theorem ents_step (std : Stdlib) (n : Nat) (IH : Claims std n) :
    ∀ (o : Opts) (t : Ty) (m : List (String × GoVal)) (d : List (String × Val)) (m' : List (String × GoVal)),
    t.plain = true → fitsVals t m = true → keysSorted m = true → mapEntries std (n+1) o t m d = .ok m' →
    fitsVals t m' = true ∧ keysSorted m' = true ∧
    ∀ e ∈ m', (e ∈ m ∧ d.any (fun kv => kv.1 == e.1) = false) ∨ (∀ ov, recValidate std ov t [] e.2 = none) := by
  intro o t m d m' ht hfit hs h
  cases d with
  | nil =>
    cases ok.inj h
    exact ⟨hfit, hs, fun e he => .inl ⟨he, rfl⟩⟩
  | cons kv r =>
    obtain ⟨k, v⟩ := kv
    obtain ⟨nv, hnv, h⟩ := bind_eq_ok h
    -- the new value of the entry: well shaped and valid
    have hgood : fits t nv = true ∧ ∀ ov, recValidate std ov t [] nv = none := by
      split at hnv
      · have := IH.reify { opts := o } t v nv ht hnv
        exact ⟨this.1, this.2.1⟩
      · obtain ⟨e, he, rfl⟩ := gmapGet_mem m k _ ‹_›
        have := IH.merge { opts := o } t e.2 v nv ht ((fitsVals_all t m).1 hfit e he) hnv
        exact ⟨this.1, this.2.1⟩
    -- it is stored (a plain type never yields the invalid reflect.Value)
    have h : mapEntries std n o t (gmapSet m k nv) r = .ok m' := by
      split at h
      · exact absurd hgood.1 (by rw [fits_iface_false]; nofun)
      · exact h
    have hfit1 : fitsVals t (gmapSet m k nv) = true := by
      refine (fitsVals_all ..).2 fun e he => ?_
      rcases mem_gmapSet m k nv hs e he with rfl | ⟨h, _⟩
      · exact hgood.1
      · exact (fitsVals_all t m).1 hfit e h
    obtain ⟨hf', hs', hall⟩ := IH.ents o t (gmapSet m k nv) r m' ht hfit1 (gmapSet_sorted m k nv hs) h
    refine ⟨hf', hs', fun e he => ?_⟩
    rcases hall e he with ⟨hin, hnot⟩ | hval
    · -- an entry the rest of the loop left alone: the one just stored, or one of `m` under another key
      rcases mem_gmapSet m k nv hs e hin with rfl | ⟨h, hne⟩
      · exact .inr hgood.2
      · refine .inl ⟨h, ?_⟩
        rw [List.any_cons, hnot, Bool.or_false]
        exact beq_eq_false_iff_ne.2 fun hk => hne hk.symm
    · exact .inr hval

theorem mapc_step (std : Stdlib) (n : Nat) (IH : Claims std n) :
    ∀ (o : Opts) (vs : List VTag) (t : Ty) (m0 : Option (List (String × GoVal))) (sub : Val) (r : GoVal), t.plain = true →
    (∀ m, m0 = some m → fitsVals t m = true ∧ keysSorted m = true) → reifyMapT std (n+1) o vs t m0 sub = .ok r →
    fits (.map t) r = true ∧ (∀ ov, recValidate std ov (.map t) [] r = none) ∧ runValidators std vs r = none := by
  intro o vs t m0 sub r ht hold h
  have hm : fitsVals t (m0.getD []) = true ∧ keysSorted (m0.getD []) = true := by
    cases m0 with
    | none => exact ⟨rfl, rfl⟩
    | some m => exact hold m rfl
  unfold reifyMapT at h
  extract_lets m at h
  split at h
  · -- nothing to merge: the map as it is, validated
    obtain ⟨hc, h⟩ := validated_ok h
    cases ok.inj h
    obtain ⟨h1, h2⟩ := (recValidate_split ..).1 hc
    exact ⟨by simpa only [fits, Bool.and_eq_true] using hm, fun ov => (recValidate_opts std ov o ..).trans h2, h1⟩
  · obtain ⟨m', hents, h⟩ := bind_eq_ok h
    obtain ⟨hf', hs', hall⟩ := IH.ents o t m _ m' ht hm.1 hm.2 hents
    obtain ⟨hc, h⟩ := validated_ok h
    obtain ⟨hv, h⟩ := validated_ok h
    cases ok.inj h
    refine ⟨by simp [fits, hf', hs'], fun ov => ?_, hv⟩
    rw [recValidate_map, recValidateMap_all]
    intro e he
    rcases hall e he with ⟨_, hnot⟩ | hval
    · -- an entry the configuration does not mention: validated explicitly
      rw [recValidate_opts std ov o]
      obtain ⟨k, x⟩ := e
      exact (recValidateMap_all ..).1 hc _ (List.mem_filter.2 ⟨he, congrArg (!·) hnot⟩)
    · exact hval ov

theorem claims (std : Stdlib) : ∀ n, Claims std n
  -- at fuel 0 every function returns `.fuel`, by computation: `contradiction` finds the hypothesis `.fuel = .ok r`
  | 0 => by constructor <;> intros <;> contradiction
  | k + 1 =>
    have ih := claims std k
    ⟨merge_step std k ih, reify_step std k ih, strct_step std k ih, getf_step std k ih, slice_step std k ih,
      arr_step std k ih, mapc_step std k ih, ents_step std k ih⟩

/-- **C04, nested.** Whatever plain type the target has - a struct, a slice, a fixed-size array or a map of primitives,
pointers, slices, arrays, maps and further structs nested to any depth, or a pointer to one, nil or not -, with any tags
(except `inline`), validators, well-shaped pre-filled value and configuration: when `Unpack` returns without error, what
it leaves in the target has the shape of the target's type and the recursive validation of it reports nothing. -/
theorem unpack_plain (std : Stdlib) (o : Opts) : ∀ (ty : Ty) (old : GoVal) (cfg : Val) (v : GoVal), ty.plain = true →
    fits ty old = true → unpack std o ty old cfg = .ok v → fits ty v = true ∧ ∀ ov, recValidate std ov ty [] v = none
  | .strct fs => by
    intro old cfg v hpl hfit h
    unfold unpack at h
    split at h
    · obtain ⟨xs', hxs, h⟩ := bind_eq_ok h
      cases ok.inj h
      obtain ⟨hf, hv⟩ := (claims std unpackFuel).strct o fs _ cfg xs' hpl hfit hxs
      exact ⟨hf, hv⟩
    · cases h
  | .map t => by
    intro old cfg v hpl hfit h
    unfold unpack at h
    split at h
    · rename_i m
      obtain ⟨hf, hv, -⟩ := (claims std unpackFuel).mapc o [] t m cfg v hpl (fits_map_some hfit) h
      exact ⟨hf, hv⟩
    · cases h
  | .slice t | .array _ t => fun old cfg v hpl hfit h =>
    have hg := (claims std unpackFuel).merge { opts := o } _ old cfg v hpl hfit h
    ⟨hg.1, hg.2.1⟩
  | .ptr t => by
    intro old cfg v hpl hfit h
    -- a non-nil pointer has the shape of its pointee and is validated as its pointee is: both by computation
    have ptr {r : GoVal} (hr : fits t r = true ∧ ∀ ov, recValidate std ov t [] r = none) :
        fits (.ptr t) (.ptr (some r)) = true ∧ ∀ ov, recValidate std ov (.ptr t) [] (.ptr (some r)) = none := hr
    unfold unpack at h
    split at h
    · obtain ⟨r, hr, h⟩ := bind_eq_ok h
      cases ok.inj h
      exact ptr (unpack_plain std o t _ cfg r hpl hfit hr)
    · -- what a nil pointer points to is allocated, then filled (slices and arrays: by reifyMergeValue)
      split at h
      -- struct, map, Config behind the pointers
      iterate 3
        obtain ⟨r, hr, h⟩ := bind_eq_ok h
        cases ok.inj h
        exact ptr (unpack_plain std o t (zeroOf t) cfg r hpl (fits_zeroOf t hpl) hr)
      -- slice, array
      iterate 2
        have hg := (claims std unpackFuel).merge { opts := o } (.ptr t) (.ptr none) cfg v hpl rfl h
        exact ⟨hg.1, hg.2.1⟩
      -- nothing else is allocated
      cases h
    · cases h
  | .prim _ => fun _ _ _ _ _ h => nomatch h
  | .regexp | .iface | .config | .unsupported | .badmap => fun _ _ _ hpl => nomatch hpl

theorem unpack_plain_valid (std : Stdlib) (o : Opts) (fs : List (String × String × String × Ty)) (xs : List GoVal)
    (cfg : Val) (v : GoVal) (hpl : plainFields fs = true) (hfit : fitsFields fs xs = true)
    (h : unpack std o (.strct fs) (.strct xs) cfg = .ok v) :
    ∀ ov, recValidate std ov (.strct fs) [] v = none :=
  (unpack_plain std o (.strct fs) (.strct xs) cfg v hpl hfit h).2

theorem unpack_plain_list_valid (std : Stdlib) (o : Opts) (ty : Ty) (old : GoVal) (cfg : Val) (v : GoVal)
    (hty : (∃ t, ty = .slice t) ∨ (∃ k t, ty = .array k t)) (hpl : ty.plain = true) (hfit : fits ty old = true)
    (h : unpack std o ty old cfg = .ok v) :
    ∀ ov, recValidate std ov ty [] v = none :=
  (unpack_plain std o ty old cfg v hpl hfit h).2

theorem unpack_plain_map_valid (std : Stdlib) (o : Opts) (t : Ty) (m : Option (List (String × GoVal))) (cfg : Val) (v : GoVal)
    (hpl : t.plain = true) (hfit : fits (.map t) (.map m) = true)
    (h : unpack std o (.map t) (.map m) cfg = .ok v) :
    ∀ ov, recValidate std ov (.map t) [] v = none :=
  (unpack_plain std o (.map t) (.map m) cfg v hpl hfit h).2

/-- what Unpack leaves in the target still has the shape of the target's type -/
theorem unpack_plain_fits (std : Stdlib) (o : Opts) (fs : List (String × String × String × Ty)) (xs : List GoVal)
    (cfg : Val) (v : GoVal) (hpl : plainFields fs = true) (hfit : fitsFields fs xs = true)
    (h : unpack std o (.strct fs) (.strct xs) cfg = .ok v) : fits (.strct fs) v = true :=
  (unpack_plain std o (.strct fs) (.strct xs) cfg v hpl hfit h).1

/-! non-vacuity: a struct nested through a pointer, a slice and an array, validators at two levels; it is in the universe,
its zero value is well shaped (the correspondence run evaluates `unpack` on thousands of such targets, accepted and
refused alike) -/
def exNested : List (String × String × String × Ty) :=
  [("Hosts", "hosts", "required", .slice (.strct [("Name", "name", "required", .prim .string), ("Port", "port", "min=1", .prim (.int 64))])),
   ("P", "p", "", .ptr (.array 1 (.strct [("N", "n", "nonzero", .prim (.int 64))]))),
   ("M", "m", "nonzero", .map (.ptr (.strct [("A", "a", "max=5", .prim (.uint 8))])))]
example : plainFields exNested = true := by decide +kernel
example : fitsFields exNested (zeroFields exNested) = true := by decide +kernel

end Ucfg.C04
