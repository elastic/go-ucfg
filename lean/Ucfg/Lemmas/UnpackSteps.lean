import Ucfg.Model.Unpack
import Ucfg.Lemmas.Outcome
/-
  What a successful call of the typed unpacker went through: inversion lemmas for the branch on a validation verdict,
  `accessField`, one round of the field loop, of the element loop and `reifyGetField`, so that the proofs about results
  (C04, C13) do not unfold these again.  Not covered, and unfolded where C04 needs them: an inlined field
  (`C04.inline_prim_fails`) and `reifyPrimitive` (`C04.reifyPrimitiveT_prim_ok` is its inversion at primitive kinds;
  its null case is read off the definition in `good_prim` and `reify_step`).
-/
namespace Ucfg
open Outcome
variable {std : Stdlib}

def Ty.isStrct : Ty → Bool
  | .strct _ => true
  | _ => false

/-- the options a field's sub-operations run under (reifyStruct: "create new context, overwriting configValueHandling") -/
def FieldInfo.fopts (fi : FieldInfo) (o : Opts) : FOpts :=
  { opts := { o with handling := fi.handling }, handling := fi.tag.handling, validators := fi.validators }

/-- the branch on a validation verdict, which the unpacker has in a dozen places -/
theorem validated_ok {α : Type} {o : Option VErr} {k : Outcome α} {r : α}
    (h : (match o with
      | some e => raiseValidation e
      | none => k) = .ok r) : o = none ∧ k = .ok r := by
  cases o with
  | none => exact ⟨rfl, h⟩
  | some e => cases h

theorem finishArray_ok {fo : FOpts} {v r : GoVal} (h : finishArray std fo v = .ok r) :
    r = v ∧ runValidators std fo.validators v = none :=
  have ⟨hv, hr⟩ := validated_ok h
  ⟨(ok.inj hr).symm, hv⟩

/-- accessField reads the options for the merge policy only: name, tag options and validators come from the tags -/
theorem accessField_some {o : Opts} {g tag vtag : String} {fi : FieldInfo}
    (h : accessField o g tag vtag = .ok (some fi)) :
    fi.name = fieldName (parseTags tag).1 g ∧ fi.tag = (parseTags tag).2 ∧
      parseValidatorTags vtag = some fi.validators := by
  unfold accessField at h
  generalize parseTags tag = pt at h ⊢
  by_cases hex : (!exported g) = true
  · rw [if_pos hex] at h; cases h
  · rw [if_neg hex] at h
    dsimp only at h
    by_cases hig : pt.2.ignore = true
    · rw [if_pos hig] at h; cases h
    · rw [if_neg hig] at h
      cases hv : parseValidatorTags vtag with
      | none => rw [hv] at h; cases h
      | some vs =>
        rw [hv] at h
        obtain rfl := Option.some.inj (ok.inj h)
        exact ⟨rfl, rfl, rfl⟩

/-- one round of the field loop of reifyStruct, inverted; nothing is said of an inlined field -/
theorem reifyStructT_cons_ok {n : Nat} {o : Opts} {g tag vtag : String} {t : Ty} {fr : List (String × String × String × Ty)}
    {x : GoVal} {xr xs' : List GoVal} {cfg : Val}
    (h : reifyStructT std (n+1) o ((g, tag, vtag, t) :: fr) (x :: xr) cfg = .ok xs') :
    ∃ fio x' rest, accessField o g tag vtag = .ok fio ∧ reifyStructT std n o fr xr cfg = .ok rest ∧ xs' = x' :: rest ∧
      match fio with
      | none => x' = x
      | some fi => fi.tag.squash = false → getField' std n (fi.fopts o) t x cfg fi.name = .ok x' := by
  obtain ⟨fio, hacc, h⟩ := bind_eq_ok h
  split at h
  · obtain ⟨rest, hrest, h⟩ := bind_eq_ok h
    exact ⟨_, x, rest, hacc, hrest, (ok.inj h).symm, rfl⟩
  · obtain ⟨x', hx', h⟩ := bind_eq_ok h
    obtain ⟨rest, hrest, h⟩ := bind_eq_ok h
    refine ⟨_, x', rest, hacc, hrest, (ok.inj h).symm, fun hsq => ?_⟩
    rw [if_neg (by simp [hsq])] at hx'
    exact hx'

/-- one round of the element loop, inverted: the elements kept are those before `start` and those the settings do not reach -/
theorem doArray_cons_ok {n : Nat} {fo : FOpts} {t : Ty} {start : Nat} {x : GoVal} {xr xs' : List GoVal} {vs : List Val}
    (h : doArray std (n+1) fo t start (x :: xr) vs = .ok xs') :
    ∃ x' rest st' vs', xs' = x' :: rest ∧ doArray std n fo t st' xr vs' = .ok rest ∧
      ((recValidate std fo.opts t [] x = none ∧ x' = x ∧ (start = 0 → vs = [])) ∨
       ∃ v nx, start = 0 ∧ st' = 0 ∧ vs = v :: vs' ∧ mergeValue std n fo t x v = .ok nx ∧
         (t = .iface ∧ nx = .iface none ∧ x' = x ∨ x' = nx)) := by
  cases start <;> cases vs
  case zero.cons v vr =>
    obtain ⟨nx, hnx, h⟩ := bind_eq_ok h
    obtain ⟨rest, hrest, h⟩ := bind_eq_ok h
    refine ⟨_, rest, 0, vr, (ok.inj h).symm, hrest, .inr ⟨v, nx, rfl, rfl, rfl, hnx, ?_⟩⟩
    split
    · exact .inl ⟨rfl, rfl, rfl⟩
    · exact .inr rfl
  -- everywhere else the element is kept
  all_goals
    obtain ⟨hc, h⟩ := validated_ok h
    obtain ⟨rest, hrest, h⟩ := bind_eq_ok h
    refine ⟨x, rest, _, _, (ok.inj h).symm, hrest, .inl ⟨hc, rfl, fun h0 => ?_⟩⟩
    first | rfl | cases h0

/-- reifyGetField, inverted by the setting `vo` it found (`none` when the name is missing) -/
theorem getField'_ok {n : Nat} {fo : FOpts} {t : Ty} {x r : GoVal} {cfg : Val} {name : String}
    (h : getField' std (n+1) fo t x cfg name = .ok r) :
    ∃ vo, (pathGet tcPlain (parsePathOpts name fo.opts) cfg = .ok vo ∨
        vo = none ∧ ∃ e, pathGet tcPlain (parsePathOpts name fo.opts) cfg = .err e ∧ e.reason = .missing) ∧
      ((Val.isNilOpt vo = true ∧ t.isStrct = true ∧ mergeValue std n fo t x Val.nilV = .ok r) ∨
       (Val.isNilOpt vo = true ∧ t.isStrct = false ∧ recValidate std fo.opts t fo.validators x = none ∧ r = x) ∨
       ∃ v nx, vo = some v ∧ v.isNilPrim = false ∧ mergeValue std n fo t x v = .ok nx ∧
         (t = .iface ∧ nx = .iface none ∧ r = x ∨ r = nx)) := by
  unfold getField' at h
  extract_lets vR at h
  -- `vR` is the lookup with a missing name read as "no setting"; the function goes on only with its value
  cases hv : vR with
  | ok vo =>
    rw [hv] at h
    refine ⟨vo, ?_, ?_⟩
    · dsimp only [vR] at hv
      split at hv
      · exact .inl (by rw [‹pathGet _ _ _ = _›, ok.inj hv])
      · split at hv
        · exact .inr ⟨(ok.inj hv).symm, _, ‹pathGet _ _ _ = _›, ‹_›⟩
        · cases hv
      · cases hv
      · cases hv
    · dsimp only at h
      split at h
      · rename_i hn
        split at h
        · exact .inl ⟨hn, rfl, h⟩
        · rename_i hns
          refine .inr (.inl ⟨hn, ?_, (validated_ok h).1, (ok.inj (validated_ok h).2).symm⟩)
          unfold Ty.isStrct
          split
          · exact (hns _ rfl).elim
          · rfl
      · rename_i hn
        split at h
        · obtain ⟨nx, hnx, h⟩ := bind_eq_ok h
          refine .inr (.inr ⟨_, nx, rfl, Bool.eq_false_iff.2 hn, hnx, ?_⟩)
          split at h
          · exact .inl ⟨rfl, rfl, (ok.inj h).symm⟩
          · exact .inr (ok.inj h).symm
        · exact absurd rfl hn
  | err e => rw [hv] at h; cases h
  | panic s => rw [hv] at h; cases h
  | fuel => rw [hv] at h; cases h

theorem getField'_absent {n : Nat} {fo : FOpts} {t : Ty} {x r : GoVal} {cfg : Val} {name : String}
    (habs : pathGet tcPlain (parsePathOpts name fo.opts) cfg = .ok none) (ht : t.isStrct = false)
    (h : getField' std (n+1) fo t x cfg name = .ok r) :
    r = x ∧ recValidate std fo.opts t fo.validators x = none := by
  obtain ⟨vo, hvo, ⟨-, hs, -⟩ | ⟨-, -, hc, hr⟩ | ⟨v, nx, rfl, -⟩⟩ := getField'_ok h
  · cases ht.symm.trans hs
  · exact ⟨hr, hc⟩
  · obtain hvo | ⟨hv, -⟩ := hvo
    · cases habs.symm.trans hvo
    · cases hv

end Ucfg
