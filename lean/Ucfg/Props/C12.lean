import Ucfg.Lemmas.Path
/-
  C12 — path-addressed reads, writes and removals behave like a tree.
-/
namespace Ucfg.C12
open Ucfg

/-- a value written to a field of a node, by name or by index, is read back from that field -/
theorem fieldGet_fieldSet_same (o : Opts) (f : Field) (node v t : Val) (h : fieldSet o f node v = .ok t) :
    fieldGet tcPlain f t = .ok (some v) := by
  obtain ⟨d, a, hd, ha, rfl⟩ := fieldSet_ok_sub h
  cases f with
  | named n =>
    simp only [fieldSet_named_sub, Outcome.ok.injEq] at h
    simp [← h, dget_dset_same]
  | idx i =>
    obtain ⟨⟨h0, _, _⟩, rfl⟩ := fieldSet_idx_sub_eq_ok.mp h
    have : i < ((asetNat a i.toNat v).length : Int) := by rw [length_asetNat]; omega
    rw [fieldGet_idx_sub, if_pos ⟨h0, this⟩, getElem?_asetNat, if_pos rfl]

/-- a value written under a name is read back unchanged from that name -/
theorem get_set_named_same (o : Opts) (d : Dict) (a : List Val) (hd ha : Bool) (n : String) (v t : Val)
    (h : fieldSet o (.named n) (.sub d a hd ha) v = .ok t) :
    fieldGet tcPlain (.named n) t = .ok (some v) :=
  fieldGet_fieldSet_same o (.named n) _ v t h

/-- … and a write under one name does not change what another name reads -/
theorem get_set_named_other (o : Opts) (d : Dict) (a : List Val) (hd ha : Bool) (n n' : String) (v t : Val)
    (hne : n ≠ n') (h : fieldSet o (.named n) (.sub d a hd ha) v = .ok t) :
    fieldGet tcPlain (.named n') t = fieldGet tcPlain (.named n') (.sub d a hd ha) := by
  cases h
  rw [fieldGet_named_sub, fieldGet_named_sub, dget_dset_other hne]

/-- a named write leaves the list part alone, an indexed write leaves the dictionary alone -/
theorem set_named_keeps_list (o : Opts) (d : Dict) (a : List Val) (hd ha : Bool) (n : String) (v t : Val)
    (h : fieldSet o (.named n) (.sub d a hd ha) v = .ok t) : t.arr = a := by
  cases h; rfl

theorem asetNat_get_same (a : List Val) (n : Nat) (v : Val) : (asetNat a n v)[n]? = some v := by
  simp [getElem?_asetNat]

/-- writing past the end pads with nil values, and earlier slots keep their content -/
theorem asetNat_get_other (a : List Val) (n m : Nat) (v : Val) (hne : m ≠ n) :
    (asetNat a n v)[m]? = if m < a.length then a[m]? else if m < n then some Val.nilV else none := by
  simp [getElem?_asetNat, hne]

/-- removing element i from a list shifts the later elements down by one -/
theorem remove_shifts (a : List Val) (i : Nat) (j : Nat) (hi : i < a.length) :
    ((adel a i).1)[j]? = if j < i then a[j]? else a[j + 1]? := by
  rw [adel_eq_eraseIdx, if_pos ⟨Int.natCast_nonneg i, Int.ofNat_lt.mpr hi⟩, Int.toNat_natCast, List.getElem?_eraseIdx]

/-- a handle on element j keeps addressing its node when an element in front of it is removed: the node is found one
index lower (this is the renumbering `opStep` applies to the handles of a history) -/
theorem shifted_handle_same_node (a : List Val) (i j : Nat) (hi : i < a.length) (hj : i < j) :
    ((adel a i).1)[j - 1]? = a[j]? := by
  rw [remove_shifts a i (j - 1) hi, if_neg (Nat.not_lt.mpr (Nat.le_sub_one_of_lt hj)),
    Nat.sub_add_cancel (Nat.lt_of_le_of_lt (Nat.zero_le i) hj)]

/-- ... and a handle on an element in front of the removed one is not affected at all -/
theorem earlier_handle_same_node (a : List Val) (i j : Nat) (hi : i < a.length) (hj : j < i) :
    ((adel a i).1)[j]? = a[j]? := by
  rw [remove_shifts a i j hi, if_pos hj]

/-- the removal reports that something was removed exactly when the index was inside the list -/
theorem remove_flag (a : List Val) (i : Int) : (adel a i).2 = true ↔ (0 ≤ i ∧ i < a.length) := by
  rw [adel_eq_eraseIdx]
  split <;> simp [*]

/-- Has agrees with GetValue at a single field -/
theorem has_iff_get (f : Field) (c : Val) :
    pathHas tcPlain [f] c = (match fieldGet tcPlain f c with
      | .ok (some _) => .ok true
      | .ok none => .ok false
      | .err e => if e.reason = .missing then .ok false else .err e
      | .panic s => .panic s
      | .fuel => .fuel) := by
  simp only [pathHas]
  cases fieldGet tcPlain f c with
  | ok v => cases v <;> rfl
  | err e => rfl
  | panic s => rfl
  | fuel => rfl

/-! ### whole paths: a write is read back through the same path

`pathSet` descends through existing containers, builds the missing ones bottom-up (`buildChain`) and puts every updated
child back where it was found.  For every path (names and indices, any length), every node and every value: when the
write succeeds, reading the same path in the result yields exactly the value written. -/

/-- the containers built for the missing part of a path lead to the value -/
theorem buildChain_get (o : Opts) : ∀ (p : List Field) (v t : Val), p ≠ [] → buildChain o p v = .ok t →
    pathGet tcPlain p t = .ok (some v) := by
  intro p
  induction p with
  | nil => intro _ _ hp _; exact absurd rfl hp
  | cons f q ih =>
    intro v t _ h
    obtain ⟨inner, hi, hs⟩ := buildChain_cons_eq_ok h
    cases q with
    | nil =>
      cases hi
      exact pathGet_single (fieldGet_fieldSet_same o f Val.empty v t hs)
    | cons g r =>
      rw [pathGet_cons_cons (fieldGet_fieldSet_same o f Val.empty inner t hs)]
      exact ih v inner (by simp) hi

theorem fieldGet_putChild_same (f : Field) (node c c' t : Val)
    (hg : fieldGet tcPlain f node = .ok (some c)) (hnode : node.isSub = true) (hp : putChild node f c' = .ok t) :
    fieldGet tcPlain f t = .ok (some c') := by
  obtain ⟨d, a, hd, ha, rfl⟩ := putChild_ok_sub hp
  cases f with
  | named n =>
    simp only [putChild_named_sub, Outcome.ok.injEq] at hp
    simp [← hp, dget_dset_same]
  | idx i =>
    simp only [putChild_idx_sub, Outcome.ok.injEq] at hp
    -- the child was found at index i: the index is inside the list
    rw [fieldGet_idx_sub] at hg
    split at hg
    · rename_i hi
      have : i.toNat < a.length := by omega
      rw [← hp, fieldGet_idx_sub, List.length_set, if_pos hi, List.getElem?_set_self this]
    · simp [Outcome.raise] at hg

/-- **read-your-writes for whole paths**: whatever the path (names and indices, any length), the node and the value, a write
that succeeds is read back through the same path -/
theorem pathGet_pathSet_same (o : Opts) : ∀ (p : List Field) (node v t : Val),
    pathSet tcPlain o p node v = .ok t → pathGet tcPlain p t = .ok (some v) := by
  intro p
  induction p with
  | nil => intro node v t h; simp [pathSet] at h
  | cons f q ih =>
    intro node v t h
    cases q with
    | nil => exact pathGet_single (fieldGet_fieldSet_same o f node v t h)
    | cons g r =>
      rcases pathSet_cons_cons_eq_ok h with ⟨inner, hi, hs⟩ | ⟨c, c', hg, hc, hp⟩
      · rw [pathGet_cons_cons (fieldGet_fieldSet_same o f node inner t hs)]
        exact buildChain_get o (g :: r) v inner (by simp) hi
      · obtain ⟨d, a, hd, ha, rfl⟩ := putChild_ok_sub hp
        rw [pathGet_cons_cons (fieldGet_putChild_same f _ c c' t hg rfl hp)]
        exact ih c v c' hc

theorem pathHas_of_get : ∀ (p : List Field) (t v : Val), pathGet tcPlain p t = .ok (some v) → p ≠ [] →
    pathHas tcPlain p t = .ok true := by
  intro p
  induction p with
  | nil => intro _ _ _ hp; exact absurd rfl hp
  | cons f q ih =>
    intro t v h _
    cases q with
    | nil => simp [pathHas, pathGet_single_eq_ok h]
    | cons g r =>
      obtain ⟨c, hf, hc⟩ := pathGet_cons_cons_eq_ok h
      simp only [pathHas, hf]
      exact ih c v hc (by simp)

/-- ... hence Has answers true for a path that has just been written -/
theorem pathHas_pathSet_same (o : Opts) (p : List Field) (node v t : Val) (hp : p ≠ [])
    (h : pathSet tcPlain o p node v = .ok t) : pathHas tcPlain p t = .ok true :=
  pathHas_of_get p t v (pathGet_pathSet_same o p node v t h) hp

/-- a write below the name `n` changes, at the node it starts from, the entry `n` and nothing else: every other name and
every list element of that node is found as before -/
theorem pathSet_named_frame (o : Opts) (n : String) (p : List Field) (d : Dict) (a : List Val) (hd ha : Bool) (v t : Val)
    (h : pathSet tcPlain o (.named n :: p) (.sub d a hd ha) v = .ok t) :
    (∀ n', n ≠ n' → fieldGet tcPlain (.named n') t = fieldGet tcPlain (.named n') (.sub d a hd ha)) ∧
    (∀ j, fieldGet tcPlain (.idx j) t = fieldGet tcPlain (.idx j) (.sub d a hd ha)) := by
  -- however the write succeeds, the result is the node with `dset d n _`
  have shape : ∃ x hd', t = .sub (dset d n x) a hd' ha := by
    cases p with
    | nil => exact ⟨v, true, by simpa [pathSet, eq_comm] using h⟩
    | cons g r =>
      rcases pathSet_cons_cons_eq_ok h with ⟨inner, _, hs⟩ | ⟨c, c', _, _, hp⟩
      · exact ⟨inner, true, by simpa [eq_comm] using hs⟩
      · exact ⟨c', hd, by simpa [putChild, eq_comm] using hp⟩
  obtain ⟨x, hd', rfl⟩ := shape
  exact ⟨fun n' hne => by simp [dget_dset_other hne], fun j => rfl⟩

/-- ... so a read through any path that starts with another name, or with an index, returns what it returned before -/
theorem pathGet_after_set_elsewhere (o : Opts) (n : String) (p : List Field) (d : Dict) (a : List Val) (hd ha : Bool)
    (v t : Val) (h : pathSet tcPlain o (.named n :: p) (.sub d a hd ha) v = .ok t) (f' : Field) (q : List Field)
    (hf : ∀ n', f' = .named n' → n ≠ n') :
    pathGet tcPlain (f' :: q) t = pathGet tcPlain (f' :: q) (.sub d a hd ha) := by
  obtain ⟨h1, h2⟩ := pathSet_named_frame o n p d a hd ha v t h
  have hfg : fieldGet tcPlain f' t = fieldGet tcPlain f' (.sub d a hd ha) := by
    cases f' with
    | named n' => exact h1 n' (hf n' rfl)
    | idx j => exact h2 j
  cases q <;> simp only [pathGet, hfg]

example : (fieldSet {} (.named "a") Val.empty (.prim (.int 1))).isOk = true := by decide +kernel
example : (adel [Val.nilV, Val.nilV] 0).2 = true := by decide +kernel
example : (pathSet tcPlain {} [.named "a", .idx 2, .named "b"] Val.empty (.prim (.int 7))).isOk = true := by decide +kernel

end Ucfg.C12
