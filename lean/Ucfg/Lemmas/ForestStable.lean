import Ucfg.Lemmas.Forest
/-!
  What NewFrom, Merge and Set* do to the heap, said once: they allocate nodes that list nothing, make deep copies, and
  rewrite the body of a node so that it lists some of what it listed and new nodes that store the place they are listed
  at.  A property of heaps that survives these steps (`Stable`) survives Merge as a whole (`merge_stable`; Set* and the
  building of source values: Lemmas/ForestSet.lean, Lemmas/ForestBuild.lean): the code of the merge functions is walked
  through here and nowhere else.

  The relations between the heap before and after, from the strongest.  `Ext h h'` (Lemmas/Forest.lean: `h` is a prefix)
  gives `Upd to h h'` for every `to` (`upd_append`, Lemmas/ForestSet.lean: all nodes but `to` are equal, `to` keeps its
  context), which gives `SameCtx h h'` (`Upd.sameCtx`: every node keeps its context).  `Ext` also gives `Keeps S h h'` for
  an `S` inside `h` (`Ext.keeps`, Lemmas/ForestMerge.lean: the nodes of `S` are equal).  `MInv base h0 h`
  (Lemmas/ForestAcyclic.lean) speaks of what the nodes list, not of their being equal.  The first four are reflexive and
  transitive; the `Stable` instances carry `Keeps` and `MInv` relative to the heap the operation started from.
-/
namespace Ucfg.Forest

/-- `to < c` is for the instances about the order of ids (`Up` in `minv_stable`); `wp_stable` and `frame_stable` do not
look at it -/
def NewAt (base : Nat) (h : Heap) (to : Id) (k : String) (c : Id) : Prop :=
  base ≤ c ∧ to < c ∧ ∃ b, h[c]? = some (⟨some to, k, b⟩ : Node)

/-- `P` survives the three things NewFrom, Merge and Set* do to a heap that has grown from `base` nodes.  `D`: the nodes
an operation may write to; it passes from a node to what it lists and holds of new nodes. -/
structure Stable (base : Nat) (P : Heap → Prop) (D : Id → Prop) : Prop where
  len : ∀ {h : Heap}, P h → base ≤ h.length
  alloc : ∀ {h : Heap} {nd : Node}, P h → nd.body.children = [] → P (h ++ [nd])
  link : ∀ {h : Heap} {to : Id} {nd : Node} {b : Body}, P h → D to → h[to]? = some nd →
    (∀ k x, Entry b k x → Entry nd.body k x ∨ NewAt base h to k x) → P (setBody h to b)
  copy : ∀ {cf : Nat} {h h1 : Heap} {v c : Id} {p : Option Id} {k : String}, P h → cpy cf h v p k = some (h1, c) → P h1
  down : ∀ {h : Heap} {to : Id} {nd : Node} {k : String} {o : Id}, P h → D to → h[to]? = some nd → Entry nd.body k o → D o
  fresh : ∀ {x : Id}, base ≤ x → D x

variable {base : Nat} {P : Heap → Prop} {D : Id → Prop}

theorem Stable.drop (st : Stable base P D) {h : Heap} {to : Id} {p f d a} {b : Body} (ph : P h) (dt : D to)
    (hg : getSub h to = some (p, f, d, a)) (hsub : ∀ k x, Entry b k x → Entry (.sub d a) k x) : P (setBody h to b) :=
  st.link ph dt (getSub_node hg) (fun k x e => .inl (hsub k x e))

theorem Stable.store (st : Stable base P D) {cf : Nat} {h h1 : Heap} {to v c : Id} {p f d a} {k : String} {b : Body}
    (ph : P h) (dt : D to) (hg : getSub h to = some (p, f, d, a)) (hc : cpy cf h v (some to) k = some (h1, c))
    (hsub : ∀ k' x, Entry b k' x → Entry (.sub d a) k' x ∨ (k' = k ∧ x = c)) : P (setBody h1 to b) := by
  obtain ⟨hg1, hid, hb⟩ := getSub_after_cpy hc hg
  refine st.link (st.copy ph hc) dt (getSub_node hg1) (fun k' x e => ?_)
  rcases hsub k' x e with e0 | ⟨rfl, rfl⟩
  · exact .inl e0
  · exact .inr ⟨hid ▸ st.len ph, hid ▸ getSub_lt hg, hb⟩

/-- fields.append -/
theorem appendCpy_stable (st : Stable base P D) (cf : Nat) : ∀ (src : List Id) (h h' : Heap) (to : Id),
    P h → D to → appendCpy cf h to src = some h' → P h' := by
  intro src
  induction src with
  | nil =>
    intro h h' to ph _ he
    simp only [appendCpy, Option.some.injEq] at he
    exact he ▸ ph
  | cons c r ih =>
    intro h h' to ph dt he
    simp only [appendCpy] at he
    split at he
    · cases he
    · rename_i p f d a hg
      split at he
      · cases he
      · rename_i h1 c' hc
        exact ih _ h' to (st.store ph dt hg hc (fun _ _ => entry_push)) dt he

theorem mergeListCopy_stable (st : Stable base P D) (cf : Nat) (pol : ArrPol) (h h' : Heap) (to : Id) (fa : List Id)
    (ph : P h) (dt : D to) (he : mergeListCopy cf pol h to fa = some h') : P h' := by
  have clear : ∀ {p f td ta}, getSub h to = some (p, f, td, ta) → P (setBody h to (.sub td [])) :=
    fun hg => st.drop ph dt hg (fun _ _ => entry_of_dict_only)
  unfold mergeListCopy at he
  cases pol with
  | merge | append => exact appendCpy_stable st cf fa h h' to ph dt he
  | replace | replaceArr =>
    simp only at he
    split at he
    · exact Option.some.inj he ▸ ph
    · split at he
      · rename_i hg
        exact appendCpy_stable st cf fa _ h' to (clear hg) dt he
      · cases he
  | prepend =>
    simp only at he
    split at he
    · exact Option.some.inj he ▸ ph
    · split at he
      · rename_i hg
        split at he
        · rename_i h1 h1e
          exact appendCpy_stable st cf _ h1 h' to (appendCpy_stable st cf fa _ h1 to (clear hg) dt h1e) dt he
        · cases he
      · cases he

/-- the claims of the induction over the fuel, one per merge function -/
structure Claims (P : Heap → Prop) (D : Id → Prop) (n : Nat) : Prop where
  mh : ∀ {cf : Nat} {pol : ArrPol} {h h' : Heap} {to frm : Id}, P h → D to → mergeH n cf pol h to frm = some h' → P h'
  md : ∀ {cf : Nat} {pol : ArrPol} {h h' : Heap} {to : Id} {fd : List (String × Id)}, P h → D to →
    mergeDictH n cf pol h to fd = some h' → P h'
  mi : ∀ {cf : Nat} {pol : ArrPol} {h h' : Heap} {to : Id} {i : Nat} {fa : List Id}, P h → D to →
    mergeIdxH n cf pol h to i fa = some h' → P h'

theorem merge_stable (st : Stable base P D) : ∀ n, Claims P D n := by
  intro n
  induction n with
  | zero =>
    refine ⟨?_, ?_, ?_⟩
    · intro cf pol h h' to frm _ _ he; simp [mergeH] at he
    · intro cf pol h h' to fd _ _ he; simp [mergeDictH] at he
    · intro cf pol h h' to i fa _ _ he; simp [mergeIdxH] at he
  | succ n IH =>
    refine ⟨?_, ?_, ?_⟩
    · intro cf pol h h' to frm ph dt he
      simp only [mergeH] at he
      split at he
      · rename_i p f td0 ta0 pf ff fd fa hg hgf
        -- under the replace policy the named settings of `to` are dropped first
        have p0 : P (if (!fd.isEmpty && pol == ArrPol.replace) = true then setBody h to (.sub [] ta0) else h) := by
          split
          · exact st.drop ph dt hg (fun _ _ => entry_of_list_only)
          · exact ph
        split at he
        · cases he
        · rename_i h1 hd
          have p1 := IH.md p0 dt hd
          split at he
          · exact IH.mi p1 dt he
          · exact mergeListCopy_stable st cf pol h1 h' to fa p1 dt he
      · cases he
    · intro cf pol h h' to fd ph dt he
      cases fd with
      | nil => simp only [mergeDictH, Option.some.injEq] at he; exact he ▸ ph
      | cons kv r =>
        obtain ⟨k, v⟩ := kv
        simp only [mergeDictH] at he
        split at he
        · rename_i p f td ta vn hg hv
          -- the tail two branches end in: no old value under the key, or not both are objects
          have store : (match cpy cf h v (some to) k with
              | none => none
              | some (h1, c) => mergeDictH n cf pol (setBody h1 to (.sub (dictSet td k c) ta)) to r) = some h' → P h' := by
            intro hst
            split at hst
            · cases hst
            · rename_i h1 c hc
              exact IH.md (st.store ph dt hg hc (fun _ _ => entry_dictSet)) dt hst
          -- the matches of the model, in order: an old value `o` under the key, its node, `unsettled`, both objects
          split at he
          · exact store he
          · rename_i o hf
            split at he
            · cases he
            · split at he
              · cases he
              · split at he
                · split at he
                  · cases he
                  · rename_i h1 hm
                    exact IH.md (IH.mh ph (st.down ph dt (getSub_node hg) (entry_of_find hf)) hm) dt he
                · exact store he
        · cases he
    · intro cf pol h h' to i fa ph dt he
      cases fa with
      | nil => simp only [mergeIdxH, Option.some.injEq] at he; exact he ▸ ph
      | cons v r =>
        simp only [mergeIdxH] at he
        split at he
        · rename_i p f td ta vn hg hv
          split at he
          · -- past the end of the destination's list: the rest is appended
            exact appendCpy_stable st cf (v :: r) h h' to ph dt he
          · rename_i o hi
            have store : (match cpy cf h v (some to) (idxName i) with
                | none => none
                | some (h1, c) => mergeIdxH n cf pol (setBody h1 to (.sub td (ta.set i c))) to (i + 1) r) = some h' →
                P h' := by
              intro hst
              split at hst
              · cases hst
              · rename_i h1 c hc
                exact IH.mi (st.store ph dt hg hc (fun _ _ => entry_set)) dt hst
            -- the matches of the model, in order: the node of the old element `o`, `unsettled`, both objects
            split at he
            · cases he
            · split at he
              · cases he
              · split at he
                · split at he
                  · cases he
                  · rename_i h1 hm
                    exact IH.mi (IH.mh ph (st.down ph dt (getSub_node hg) (.inr ⟨i, hi, rfl⟩)) hm) dt he
                · exact store he
        · cases he

end Ucfg.Forest
