import Ucfg.Lemmas.ForestMerge
import Ucfg.Lemmas.ForestBuild
/-!
  C10 — merging copies: the source is untouched and nothing is shared.

  Everything Merge stores into the destination is `x.cpy(ctx)` (mergeConfigDict, mergeConfigMergeArr) or goes through
  fields.append, which copies (`a[i].cpy(ctx)`); so does a *Config embedded in the source value (normalizeValue; D18,
  DESIGN.md section 7).  On the identity-level model: a copy only allocates, consists of new nodes that list no old node,
  and carries the context asked for; the in-place writes change one node; and Merge as a whole (`mergeH`, the function the
  correspondence driver runs histories through; every list policy, any depth) composes these.  For any set `S` of nodes
  that nothing outside of it points into - the source's tree, any third config - a merge whose destination is outside `S`
  leaves every node of `S` identical and `S` separated (`merge_leaves_separated_untouched`, the frame of
  Lemmas/ForestMerge.lean).  The hypothesis is met by construction for a config made by copying
  (`copy_separates_old_heap`), and the frame survives the building of a source value (`Src`, `buildH`: plain data with
  configs embedded anywhere), so Merge and NewFrom of a value leave every node that existed identical.
  Not proved: merges in which a null meets a value (`mergeH` answers `none` there - which value wins is the content model's
  business, Model/Merge.lean).
-/
namespace Ucfg.C10
open Ucfg.Forest

/-- the source (and everything else that existed) is bit-for-bit what it was -/
theorem copy_leaves_every_node_untouched (n : Nat) (h h' : Heap) (id id' : Id) (p : Option Id) (f : String)
    (he : cpy n h id p f = some (h', id')) : ∀ (i : Nat) (nd : Node), h[i]? = some nd → h'[i]? = some nd :=
  fun _ _ hi => ((cpy_appends he).1.old (lt_of_getElem?_some hi)).trans hi

/-- the copy consists of new nodes only, and none of them points at an old node -/
theorem copy_is_made_of_new_nodes (n : Nat) (h h' : Heap) (id id' : Id) (p : Option Id) (f : String)
    (he : cpy n h id p f = some (h', id')) :
    id' = h.length ∧ h.length < h'.length ∧
    ∀ (i : Nat) (nd : Node), h.length ≤ i → h'[i]? = some nd → ∀ c ∈ nd.body.children, h.length ≤ c := by
  obtain ⟨t, rfl, hid, hfresh, ⟨b, hb⟩⟩ := cpy_fresh he
  refine ⟨hid, hid ▸ lt_of_getElem?_some hb, fun i nd hi hnd c hc => ?_⟩
  rw [List.getElem?_append_right hi] at hnd
  exact hfresh nd (List.mem_of_getElem? hnd) c hc

theorem copy_has_requested_context (n : Nat) (h h' : Heap) (id id' : Id) (p : Option Id) (f : String)
    (he : cpy n h id p f = some (h', id')) : ∃ b, h'[id']? = some ⟨p, f, b⟩ :=
  (cpy_appends he).2.2

/-- non-vacuity: copying a two-node tree -/
example : cpy 3 [⟨none, "", .sub [("a", 1)] []⟩, ⟨some 0, "a", .prim "int" "7"⟩] 0 (some 9) "k" =
    some ([⟨none, "", .sub [("a", 1)] []⟩, ⟨some 0, "a", .prim "int" "7"⟩, ⟨some 9, "k", .sub [("a", 3)] []⟩, ⟨some 2, "a", .prim "int" "7"⟩], 2) := by
  decide +kernel

/-- list merges (append, prepend, replace, longer list): every node except the destination's own is untouched -/
theorem append_leaves_sources_untouched (fuel : Nat) (src : List Id) (h h' : Heap) (to : Id) (p : Option Id) (f : String)
    (d : List (String × Id)) (a : List Id)
    (hg : getSub h to = some (p, f, d, a)) (he : appendCpy fuel h to src = some h') :
    ∀ (i : Nat) (nd : Node), i ≠ to → h[i]? = some nd → h'[i]? = some nd := by
  obtain ⟨u, _⟩ := appendCpy_spec fuel src h h' to hg he
  intro i nd hne hi
  rw [u.others i (lt_of_getElem?_some hi) hne]
  exact hi

/-- ... and what the destination gains are new nodes -/
theorem append_stores_new_nodes (fuel : Nat) (src : List Id) (h h' : Heap) (to : Id) (p : Option Id) (f : String)
    (d : List (String × Id)) (a : List Id)
    (hg : getSub h to = some (p, f, d, a)) (he : appendCpy fuel h to src = some h') :
    ∃ new, getSub h' to = some (p, f, d, a ++ new) ∧ ∀ c ∈ new, h.length ≤ c := by
  obtain ⟨_, new, h1, _, _, h4⟩ := appendCpy_spec fuel src h h' to hg he
  exact ⟨new, h1, h4⟩

/-- the in-place writes of Set*/Remove/Merge change exactly one node each -/
theorem write_is_local_body (h : Heap) (id i : Id) (b : Body) (hne : i ≠ id) : (setBody h id b)[i]? = h[i]? :=
  setBody_other hne

theorem write_is_local_field (h : Heap) (id i : Id) (f : String) (hne : i ≠ id) : (setField h id f)[i]? = h[i]? :=
  setField_other hne

/-- Remove from a list touches the list's node and the elements it moves, nothing else -/
theorem delAt_is_local (h : Heap) (to : Id) (i j : Nat) (p : Option Id) (f : String) (d : List (String × Id)) (a : List Id)
    (hg : getSub h to = some (p, f, d, a)) (hj : j ≠ to) (hja : j ∉ a) : (delAt h to i)[j]? = h[j]? := by
  by_cases hi : i < a.length
  · have : j ∉ (a.eraseIdx i).drop i := fun hc => hja (List.mem_of_mem_eraseIdx (List.mem_of_mem_drop hc))
    rw [delAt_of_lt hg hi, renumber_other this, setBody_other hj]
  · rw [delAt_of_not_lt fun _ _ _ _ hg' => by cases hg.symm.trans hg'; exact hi]

/-- Merge, as a whole and under every list policy, leaves every node of a separated set `S` (e.g. the source config's
tree) identical, and no node outside `S` points into `S` afterwards either: destination and source share nothing. -/
theorem merge_leaves_separated_untouched (S : Id → Prop) (n cf : Nat) (pol : ArrPol) (h h' : Heap) (to frm : Id)
    (hS : ∀ i : Nat, S i → i < h.length) (hsep : Sep S h) (hto : ¬ S to)
    (he : mergeH n cf pol h to frm = some h') :
    (∀ i, S i → h'[i]? = h[i]?) ∧ Sep S h' ∧ h.length ≤ h'.length := by
  obtain ⟨a, b, _⟩ := (mclaims S h.length hS n).mh cf pol h h' to frm (Nat.le_refl _) hsep hto he
  exact ⟨b.1, a, b.2⟩

/-- a history of merges: (policy, destination, source) one after the other -/
def mergeAll (n cf : Nat) : Heap → List (ArrPol × Id × Id) → Option Heap
  | h, [] => some h
  | h, (pol, to, frm) :: r =>
    match mergeH n cf pol h to frm with
    | some h1 => mergeAll n cf h1 r
    | none => none

/-- every history of merges into destinations outside `S` leaves `S` untouched -/
theorem merges_leave_separated_untouched (S : Id → Prop) (n cf : Nat) (ops : List (ArrPol × Id × Id)) :
    ∀ (h h' : Heap), (∀ i : Nat, S i → i < h.length) → Sep S h → (∀ op ∈ ops, ¬ S op.2.1) →
      mergeAll n cf h ops = some h' → (∀ i, S i → h'[i]? = h[i]?) ∧ Sep S h' := by
  induction ops with
  | nil =>
    intro h h' _ hsep _ he
    simp only [mergeAll, Option.some.injEq] at he
    subst he
    exact ⟨fun _ _ => rfl, hsep⟩
  | cons op r ih =>
    intro h h' hS hsep hto he
    obtain ⟨pol, to, frm⟩ := op
    simp only [mergeAll] at he
    cases hm : mergeH n cf pol h to frm with
    | none => rw [hm] at he; cases he
    | some h1 =>
      rw [hm] at he
      obtain ⟨k1, s1, l1⟩ := merge_leaves_separated_untouched S n cf pol h h1 to frm hS hsep (hto _ (List.mem_cons_self ..)) hm
      obtain ⟨k2, s2⟩ := ih h1 h' (fun i hi => Nat.lt_of_lt_of_le (hS i hi) l1) s1
        (fun op hop => hto op (List.mem_cons_of_mem _ hop)) he
      exact ⟨fun i hi => by rw [k2 i hi, k1 i hi], s2⟩

/-- after a copy, everything that existed before is a separated set: no node of the copy points at an older node -/
theorem copy_separates_old_heap (n : Nat) (h h' : Heap) (id id' : Id) (p : Option Id) (f : String)
    (he : cpy n h id p f = some (h', id')) :
    Sep (fun i : Nat => i < h.length) h' ∧ ¬ (id' < h.length) ∧ h.length ≤ h'.length := by
  obtain ⟨t, rfl, hid, hfr, _⟩ := cpy_fresh he
  refine ⟨?_, by rw [hid]; exact Nat.lt_irrefl _, Ext.len ⟨_, rfl⟩⟩
  intro x nd hx hnx c hc
  have hge : h.length ≤ x := Nat.le_of_not_lt hnx
  rw [List.getElem?_append_right hge] at hx
  exact Nat.not_lt.mpr (hfr nd (List.mem_of_getElem? hx) c hc)

/-- ... so a config made by copying can be merged into, from any source and under any policy, without any node that
existed before the copy changing: not the config it was copied from, not the source of the merge, no third config -/
theorem merge_into_copy_leaves_everything_else (n m cf : Nat) (pol : ArrPol) (h h1 h2 : Heap) (id cp frm : Id)
    (p : Option Id) (f : String) (hc : cpy n h id p f = some (h1, cp)) (hm : mergeH m cf pol h1 cp frm = some h2) :
    ∀ i, i < h.length → h2[i]? = h[i]? := by
  obtain ⟨hsep, hcp, hl⟩ := copy_separates_old_heap n h h1 id cp p f hc
  obtain ⟨keep, _, _⟩ := merge_leaves_separated_untouched (fun i : Nat => i < h.length) m cf pol h1 h2 cp frm
    (fun i hi => Nat.lt_of_lt_of_le hi hl) hsep hcp hm
  intro i hi
  rw [keep i hi]
  exact (cpy_appends hc).1.old hi

/-- what `buildH` makes of a source value leaves the old heap a separated set -/
theorem build_separates_old_heap (cf : Nat) (h h1 : Heap) (s : Src) (p : Option Id) (f : String) (id : Id)
    (hb : buildH cf h s p f = some (h1, id)) :
    Sep (fun i : Nat => i < h.length) h1 ∧ ¬ (id < h.length) ∧ h.length ≤ h1.length ∧
      (∀ i, i < h.length → h1[i]? = h[i]?) := by
  have ok := buildH_ok cf s h p f h1 id hb
  refine ⟨?_, by rw [ok.id_eq]; exact Nat.lt_irrefl _, ok.ext.len, fun i hi => ok.ext.old hi⟩
  intro x nd hx hnx c hc
  exact Nat.not_lt.mpr (ok.fresh x nd (Nat.le_of_not_lt hnx) hx c hc)

/-- Merge(value) into a config that is not part of the value: every node that existed apart from the destination's own
tree - the configs embedded in the value, any third config - is identical afterwards.  `S` is any separated set the
destination is outside of; for a value without a directly given config it can be taken to be everything but the
destination's tree. -/
theorem mergeSrc_leaves_separated_untouched (S : Id → Prop) (n cf : Nat) (pol : ArrPol) (h h' : Heap) (to : Id) (src : Src)
    (hS : ∀ i : Nat, S i → i < h.length) (hsep : Sep S h) (hto : ¬ S to)
    (he : mergeSrcH n cf pol h to src = some h') : ∀ i, S i → h'[i]? = h[i]? :=
  (mergeSrcH_stable (frame_stable S h.length hS h) ⟨hsep, Keeps.refl h, Nat.le_refl _⟩ hto he).2.1.1

/-- NewFrom(value): nothing that existed changes - not the configs embedded in the value, nothing else -/
theorem newFrom_leaves_everything_untouched (n cf : Nat) (pol : ArrPol) (h h' : Heap) (src : Src) (root : Id)
    (he : newFromH n cf pol h src = some (h', root)) : ∀ i, i < h.length → h'[i]? = h[i]? :=
  (newFromH_stable (frame_stable (fun i : Nat => i < h.length) h.length (fun _ hi => hi) h)
    ⟨fun _ _ hx hnx => absurd (lt_of_getElem?_some hx) hnx, Keeps.refl h, Nat.le_refl _⟩ he).2.1.1

/-- non-vacuity: NewFrom of `{k: <config 0>, n: 1}` copies config 0 (`{a: 7}`) and leaves it alone -/
example : (newFromH 20 20 .merge [⟨none, "", .sub [("a", 1)] []⟩, ⟨some 0, "a", .prim "int" "7"⟩]
    (.map [("k", .reg 0), ("n", .prim "int" "1")])).map (fun r => (r.1.length, r.1[0]?, r.1[1]?)) =
    some (10, some ⟨none, "", .sub [("a", 1)] []⟩, some ⟨some 0, "a", .prim "int" "7"⟩) := by decide +kernel

/-- worked example: `{a: {x: 1}}` (nodes 0-2) merged from `{a: {y: 2}, l: [3]}` (nodes 3-7); `S` is the source's tree -/
def exHeap : Heap :=
  [⟨none, "", .sub [("a", 1)] []⟩, ⟨some 0, "a", .sub [("x", 2)] []⟩, ⟨some 1, "x", .prim "int" "1"⟩,
   ⟨none, "", .sub [("a", 4), ("l", 6)] []⟩, ⟨some 3, "a", .sub [("y", 5)] []⟩, ⟨some 4, "y", .prim "int" "2"⟩,
   ⟨some 3, "l", .sub [] [7]⟩, ⟨some 6, "0", .prim "int" "3"⟩]

/-- the merge runs and allocates three nodes (y, l, l.0 - nothing for `a`, which is merged in place) -/
example : (mergeH 20 20 .merge exHeap 0 3).map (·.length) = some 11 := by rfl

/-- the source's tree -/
def exS : Nat → Prop := fun i => 3 ≤ i ∧ i < 8

/-- the hypotheses are met: the source's tree is separated from the destination's -/
example : (∀ i : Nat, exS i → i < exHeap.length) ∧ Sep exS exHeap ∧ ¬ exS 0 := by
  refine ⟨fun i hi => hi.2, fun x nd hx hnx c hc => ?_, fun h => absurd h.1 (by decide)⟩
  -- the eight nodes, by evaluation: those outside `exS` (0, 1, 2) list 1, 2 and nothing
  have fin : ∀ x : Fin 8, ¬ (3 ≤ x.1 ∧ x.1 < 8) → ∀ nd ∈ exHeap[x.1]?, ∀ c ∈ nd.body.children, ¬ (3 ≤ c ∧ c < 8) := by
    decide +kernel
  exact fin ⟨x, lt_of_getElem?_some hx⟩ hnx nd hx c hc

end Ucfg.C10
