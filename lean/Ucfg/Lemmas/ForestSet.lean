import Ucfg.Lemmas.ForestStable
/-!
  Writes to one node (`appendCpy`, `padTo`, `setAt`, `storeSeg`) and through a whole path (`setChain`, `setPathH`,
  `setChildH`): every node keeps its stored parent and name and only the body of the node written to changes (`Upd`,
  `SameCtx`); what the list part of that node is afterwards; the chain of new nodes a path write builds; and Set* as a
  sequence of the steps a `Stable` property survives (`setPathH_stable`).
-/
namespace Ucfg.Forest

/-- what a write to `to` does to the nodes that exist, whatever it stores: the relation the single writes are chained
with (`Upd.trans`), and from which `SameCtx` is read off -/
structure Upd (to : Id) (h h' : Heap) : Prop where
  len : h.length ≤ h'.length
  others : ∀ i, i < h.length → i ≠ to → h'[i]? = h[i]?
  ctx : ∀ nd : Node, h[to]? = some nd → ∃ b, h'[to]? = some (⟨nd.parent, nd.field, b⟩ : Node)

theorem Upd.refl (to : Id) (h : Heap) : Upd to h h :=
  ⟨Nat.le_refl _, fun _ _ _ => rfl, fun nd hn => ⟨nd.body, by rw [hn]⟩⟩

theorem Upd.trans {to : Id} {h1 h2 h3 : Heap} (a : Upd to h1 h2) (b : Upd to h2 h3) : Upd to h1 h3 := by
  refine ⟨Nat.le_trans a.len b.len, ?_, ?_⟩
  · intro i hi hne
    rw [b.others i (Nat.lt_of_lt_of_le hi a.len) hne, a.others i hi hne]
  · intro nd hn
    obtain ⟨b1, h2⟩ := a.ctx nd hn
    obtain ⟨b2, h3⟩ := b.ctx _ h2
    exact ⟨b2, h3⟩

theorem upd_setBody (h : Heap) (to : Id) (b : Body) : Upd to h (setBody h to b) := by
  refine ⟨by rw [setBody_length]; exact Nat.le_refl _, fun i _ hne => setBody_other hne, ?_⟩
  intro nd hn
  exact ⟨b, by rw [setBody_same hn]⟩

theorem upd_append (h : Heap) (to : Id) (t : List Node) : Upd to h (h ++ t) := by
  refine ⟨by simp, fun i hi _ => List.getElem?_append_left hi, ?_⟩
  intro nd hn
  exact ⟨nd.body, by rw [List.getElem?_append_left (lt_of_getElem?_some hn), hn]⟩

theorem padTo_upd (n : Nat) (h : Heap) (to idx : Nat) : Upd to h (padTo n h to idx) := by
  -- the cases of `padTo`: 1 out of fuel, 2 `to` is no object, 3 one null is appended and padding goes on, 4 the list is
  -- long enough; in case 3 the binders are `n h to idx p f d a`, the `getSub`, `a.length < idx`, the new heap, the hypothesis
  fun_induction padTo n h to idx
  case case3 ih => exact (upd_append _ _ _).trans ((upd_setBody _ _ _).trans ih)
  case case1 | case2 | case4 => exact Upd.refl _ _

/-- what every write of the model does to the stored positions: nothing.  `Placed` is monotone along it (`Placed.mono`) -/
def SameCtx (h h' : Heap) : Prop :=
  h.length ≤ h'.length ∧ ∀ (i : Nat) (nd : Node), h[i]? = some nd → ∃ b, h'[i]? = some (⟨nd.parent, nd.field, b⟩ : Node)

theorem SameCtx.refl (h : Heap) : SameCtx h h := ⟨Nat.le_refl _, fun i nd hn => ⟨nd.body, by rw [hn]⟩⟩

theorem SameCtx.trans {h1 h2 h3 : Heap} (a : SameCtx h1 h2) (b : SameCtx h2 h3) : SameCtx h1 h3 := by
  refine ⟨Nat.le_trans a.1 b.1, ?_⟩
  intro i nd hn
  obtain ⟨b1, h2⟩ := a.2 i nd hn
  obtain ⟨b2, h3⟩ := b.2 i _ h2
  exact ⟨b2, h3⟩

theorem Upd.sameCtx {to : Id} {h h' : Heap} (u : Upd to h h') : SameCtx h h' := by
  refine ⟨u.len, ?_⟩
  intro i nd hn
  by_cases e : i = to
  · subst e; exact u.ctx nd hn
  · exact ⟨nd.body, by rw [u.others i (lt_of_getElem?_some hn) e, hn]⟩

theorem padTo_none {h : Heap} {to : Id} (hg : getSub h to = none) (n idx : Nat) : padTo n h to idx = h := by
  cases n with
  | zero => rfl
  | succ n => unfold padTo; rw [hg]

theorem pad_step {h : Heap} {to : Id} {p f d a} (hg : getSub h to = some (p, f, d, a)) (nd : Node) :
    getSub (setBody (h ++ [nd]) to (.sub d (a ++ [h.length]))) to = some (p, f, d, a ++ [h.length]) ∧
    (setBody (h ++ [nd]) to (.sub d (a ++ [h.length])))[h.length]? = some nd := by
  refine ⟨getSub_of_node (setBody_same (getSub_node_append hg _)), ?_⟩
  rw [setBody_other (Nat.ne_of_gt (getSub_lt hg))]; exact List.getElem?_concat_length

/-- `padTo_getSub` where `padTo` returns the heap as it is; `hm`: with `m` rounds left it is not the fuel that stopped it -/
theorem padTo_getSub_nil {h : Heap} {to idx m : Nat} {p f d a} (hg : getSub h to = some (p, f, d, a))
    (hm : idx ≤ a.length + m → idx ≤ a.length) :
    ∃ pad, getSub h to = some (p, f, d, a ++ pad) ∧ (idx ≤ a.length + m → idx ≤ (a ++ pad).length) ∧
      (a ++ pad).length ≤ max a.length idx ∧ IndexedFrom h to a.length pad :=
  ⟨[], by rw [List.append_nil]; exact hg, by rw [List.append_nil]; exact hm,
    by rw [List.append_nil]; exact Nat.le_max_left _ _, IndexedFrom.nil _ _ _⟩

theorem padTo_getSub (n : Nat) (h : Heap) (to idx : Nat) {p f d a} (hg : getSub h to = some (p, f, d, a)) :
    ∃ pad, getSub (padTo n h to idx) to = some (p, f, d, a ++ pad) ∧ (idx ≤ a.length + n → idx ≤ (a ++ pad).length) ∧
      (a ++ pad).length ≤ max a.length idx ∧ IndexedFrom (padTo n h to idx) to a.length pad := by
  fun_induction padTo n h to idx generalizing a
  -- the cases: see `padTo_upd`
  case case1 => exact padTo_getSub_nil hg id
  case case2 hn => rw [hn] at hg; cases hg
  case case4 hg' hnlt =>
    obtain ⟨rfl, rfl, rfl, rfl⟩ : _ ∧ _ ∧ _ ∧ _ := by simpa using hg'.symm.trans hg
    exact padTo_getSub_nil hg fun _ => Nat.le_of_not_lt hnlt
  case case3 n h to idx p' f' d' a' hg' hlt h1 ih =>
    obtain ⟨rfl, rfl, rfl, rfl⟩ : _ ∧ _ ∧ _ ∧ _ := by simpa using hg'.symm.trans hg
    obtain ⟨hg2, hnull⟩ := pad_step hg (nilNode (some to) (idxName a'.length))
    obtain ⟨pad, hgp, hle, hhi, hidx⟩ := ih hg2
    have hl : (a' ++ [h.length]).length = a'.length + 1 := by rw [List.length_append, List.length_singleton]
    rw [hl] at hle hhi hidx
    refine ⟨h.length :: pad, by rw [List.append_cons a' h.length pad]; exact hgp, fun hi => ?_, ?_,
      -- the null just appended: later padding leaves its context alone
      .cons ((padTo_upd n _ to idx).sameCtx.2 h.length _ hnull) hidx⟩
    · rw [List.append_cons a' h.length pad]
      exact hle (by rw [Nat.add_assoc, Nat.add_comm 1 n]; exact hi)
    · rw [List.append_cons a' h.length pad]
      exact Nat.le_trans hhi (Nat.max_le.mpr ⟨Nat.le_trans hlt (Nat.le_max_right _ _), Nat.le_max_right _ _⟩)

/-- `idx + 1` rounds of padding reach `idx`: if the slot `idx` is not there afterwards, it is the first free one -/
theorem padTo_slot {h : Heap} {to idx : Nat} {p f d a1} (hg1 : getSub (padTo (idx + 1) h to idx) to = some (p, f, d, a1))
    (hnlt : ¬ idx < a1.length) : a1.length = idx := by
  cases hg : getSub h to with
  | none => rw [padTo_none hg, hg] at hg1; cases hg1
  | some q =>
    obtain ⟨pad, hgp, hle, _⟩ := padTo_getSub (idx + 1) h to idx hg
    rw [hgp] at hg1
    simp only [Option.some.injEq, Prod.mk.injEq] at hg1
    have := hle (Nat.le_trans (Nat.le_succ idx) (Nat.le_add_left _ _))
    rw [hg1.2.2.2] at this
    exact Nat.le_antisymm (Nat.le_of_not_lt hnlt) this

/-- fields.setAt unfolded once, in the form `Stable.link` takes -/
theorem setAt_cases (h : Heap) (to idx c : Nat) :
    (getSub (padTo (idx + 1) h to idx) to = none ∧ setAt h to idx c = padTo (idx + 1) h to idx) ∨
    ∃ p f d a1 b, getSub (padTo (idx + 1) h to idx) to = some (p, f, d, a1) ∧
      setAt h to idx c = setBody (padTo (idx + 1) h to idx) to b ∧
      ∀ k x, Entry b k x → Entry (.sub d a1) k x ∨ (k = idxName idx ∧ x = c) := by
  unfold setAt
  simp only
  split
  · exact .inl ⟨‹_›, rfl⟩
  · rename_i p f d a1 hg
    -- after the padding the slot `idx` is there (`a1.set`), or it is the first free one (`padTo_slot`) and `c` is appended
    split
    · exact .inr ⟨p, f, d, a1, _, hg, rfl, fun _ _ => entry_set⟩
    · rename_i hnlt
      refine .inr ⟨p, f, d, a1, _, hg, rfl, fun k x e => (entry_push e).imp id fun ⟨hk, hx⟩ => ⟨?_, hx⟩⟩
      rw [hk, padTo_slot hg hnlt]

theorem setAt_length (h : Heap) (to idx c : Nat) : (setAt h to idx c).length = (padTo (idx + 1) h to idx).length := by
  rcases setAt_cases h to idx c with ⟨_, e⟩ | ⟨_, _, _, _, _, _, e, _⟩ <;> rw [e]
  exact setBody_length _ _ _

theorem attachCtx_length (h : Heap) (child t : Id) (f : String) : (attachCtx h child t f).length = h.length := by
  unfold attachCtx
  cases h[child]? with
  | none => rfl
  | some n => simp only; split <;> simp

theorem setAt_upd (h : Heap) (to idx c : Nat) : Upd to h (setAt h to idx c) := by
  rcases setAt_cases h to idx c with ⟨_, e⟩ | ⟨_, _, _, _, _, _, e, _⟩ <;> rw [e]
  · exact padTo_upd _ h to idx
  · exact (padTo_upd _ h to idx).trans (upd_setBody _ to _)

theorem storeSeg_upd (h : Heap) (to : Id) (s : Seg) (c : Id) : Upd to h (storeSeg h to s c) := by
  cases s with
  | name k =>
    unfold storeSeg
    simp only
    split
    · exact Upd.refl to h
    · exact upd_setBody h to _
  | idx i => exact setAt_upd h to i c

theorem storeSeg_new {h : Heap} {to : Id} (hto : to < h.length) (nd : Node) (s : Seg) :
    (storeSeg (h ++ [nd]) to s h.length)[h.length]? = some nd := by
  rw [(storeSeg_upd (h ++ [nd]) to s h.length).others h.length (by simp) (Nat.ne_of_gt hto)]
  exact List.getElem?_concat_length

theorem appendCpy_spec (fuel : Nat) : ∀ (src : List Id) (h h' : Heap) (to : Id) {p f d a},
    getSub h to = some (p, f, d, a) → appendCpy fuel h to src = some h' →
    Upd to h h' ∧ ∃ new, getSub h' to = some (p, f, d, a ++ new) ∧ new.length = src.length ∧
      IndexedFrom h' to a.length new ∧ ∀ c ∈ new, h.length ≤ c := by
  intro src
  induction src with
  | nil =>
    intro h h' to p f d a hg he
    simp only [appendCpy, Option.some.injEq] at he
    subst he
    exact ⟨Upd.refl to h, [], by rw [List.append_nil]; exact hg, rfl, IndexedFrom.nil _ _ _, fun c hc => by cases hc⟩
  | cons c r ih =>
    intro h h' to p f d a hg he
    simp only [appendCpy, hg] at he
    split at he
    · cases he
    · rename_i h1 c' hc
      obtain ⟨⟨t, rfl⟩, rfl, b, hb⟩ := cpy_appends hc
      have hto := getSub_lt hg
      obtain ⟨u, new, hgn, hlen, hidx, hfresh⟩ :=
        ih _ h' to (getSub_of_node (setBody_same (b := .sub d (a ++ [h.length])) (getSub_node_append hg t))) he
      have hl : (a ++ [h.length]).length = a.length + 1 := by rw [List.length_append, List.length_singleton]
      rw [hl] at hidx
      refine ⟨(upd_append h to t).trans ((upd_setBody _ to _).trans u), h.length :: new,
        by rw [List.append_cons a h.length new]; exact hgn, by rw [List.length_cons, hlen, List.length_cons],
        .cons ?_ hidx, fun x hx => ?_⟩
      · -- the copy just stored: the later appends leave its context alone
        refine u.sameCtx.2 h.length ⟨some to, idxName a.length, b⟩ ?_
        rw [setBody_other (Nat.ne_of_gt hto)]
        exact hb
      · rcases List.mem_cons.mp hx with rfl | hx
        · exact Nat.le_refl _
        · have := hfresh x hx
          rw [setBody_length, List.length_append] at this
          exact Nat.le_trans (Nat.le_add_right _ _) this

theorem setChain_cons2 (h : Heap) (to : Id) (s s2 : Seg) (r : List Seg) (l : Leaf) :
    setChain h to (s :: s2 :: r) l =
      setChain (storeSeg (h ++ [⟨some to, s.str, .sub [] []⟩]) to s h.length) h.length (s2 :: r) l := rfl

theorem setChain_one (h : Heap) (to : Id) (s : Seg) (k v : String) :
    setChain h to [s] (.prim k v) = storeSeg (h ++ [⟨some to, s.str, .prim k v⟩]) to s h.length := rfl

theorem setChain_child_one (h : Heap) (to : Id) (s : Seg) (c : Id) :
    setChain h to [s] (.child c) = storeSeg (attachCtx h c to s.str) to s c := rfl

theorem setChain_sameCtx (k v : String) : ∀ (rest : List Seg) (h : Heap) (to : Id),
    SameCtx h (setChain h to rest (.prim k v)) := by
  intro rest
  induction rest with
  | nil => intro h _; exact SameCtx.refl h
  | cons s r ih =>
    intro h to
    cases r with
    | nil =>
      exact (upd_append h to _).sameCtx.trans (storeSeg_upd _ to s _).sameCtx
    | cons s2 r2 =>
      exact (upd_append h to _).sameCtx.trans ((storeSeg_upd _ to s _).sameCtx.trans (ih _ _))

variable {base : Nat} {P : Heap → Prop} {D : Id → Prop}

theorem padTo_stable (st : Stable base P D) (n : Nat) (h : Heap) (to idx : Nat) (ph : P h) (dt : D to) :
    P (padTo n h to idx) := by
  fun_induction padTo n h to idx  -- the cases: see `padTo_upd`
  case case1 | case2 | case4 => exact ph
  case case3 n h to idx p f d a hg hlt h1 ih =>
    have hto := getSub_lt hg
    refine ih (st.link (st.alloc ph rfl) dt (getSub_node_append hg _) fun k x e => ?_) dt
    rcases entry_push e with e0 | ⟨rfl, rfl⟩
    · exact .inl e0
    · exact .inr ⟨st.len ph, hto, _, List.getElem?_concat_length⟩

theorem setAt_stable (st : Stable base P D) (h : Heap) (to idx c : Nat) (ph : P h) (dt : D to)
    (hc : NewAt base h to (idxName idx) c) :
    P (setAt h to idx c) := by
  obtain ⟨hb, hlt, b0, hb0⟩ := hc
  obtain ⟨b1, hb1⟩ := (padTo_upd (idx + 1) h to idx).sameCtx.2 _ _ hb0
  have hnew : NewAt base (padTo (idx + 1) h to idx) to (idxName idx) c := ⟨hb, hlt, b1, hb1⟩
  have p1 := padTo_stable st (idx + 1) h to idx ph dt
  rcases setAt_cases h to idx c with ⟨_, e⟩ | ⟨p, f, d, a1, b, hg1, e, hent⟩ <;> rw [e]
  · exact p1
  · exact st.link p1 dt (getSub_node hg1) fun k x en => (hent k x en).imp id (fun ⟨hk, hx⟩ => hk ▸ hx ▸ hnew)

theorem storeSeg_stable (st : Stable base P D) (h : Heap) (to : Id) (s : Seg) (c : Id) (ph : P h) (dt : D to)
    (hc : NewAt base h to s.str c) : P (storeSeg h to s c) := by
  cases s with
  | idx i => exact setAt_stable st h to i c ph dt hc
  | name k =>
    unfold storeSeg
    simp only
    split
    · exact ph
    · rename_i p f d a hg
      exact st.link ph dt (getSub_node hg) fun k' x e => (entry_dictSet e).imp id (fun ⟨hk, hx⟩ => hk ▸ hx ▸ hc)

/-- Set* along a path: an object per missing segment and the value, each allocated and then linked in -/
theorem setChain_stable (st : Stable base P D) (k v : String) : ∀ (rest : List Seg) (h : Heap) (to : Id), P h → D to →
    to < h.length → P (setChain h to rest (.prim k v)) := by
  intro rest
  induction rest with
  | nil => intro _ _ ph _ _; exact ph
  | cons s r ih =>
    intro h to ph dt hto
    cases r with
    | nil =>
      exact storeSeg_stable st _ to s _ (st.alloc ph rfl) dt ⟨st.len ph, hto, _, List.getElem?_concat_length⟩
    | cons s2 r =>
      exact ih _ h.length
        (storeSeg_stable st _ to s _ (st.alloc ph rfl) dt ⟨st.len ph, hto, _, List.getElem?_concat_length⟩)
        (st.fresh (st.len ph)) (lt_of_getElem?_some (storeSeg_new hto ⟨some to, s.str, .sub [] []⟩ s))

theorem setPathH_ok {h h' : Heap} {root : Id} {segs : List Seg} {l : Leaf} (hs : setPathH h root segs l = .ok h') :
    ∃ to rest q, walkSet h root segs = .stop to rest ∧ getSub h to = some q ∧ h' = setChain h to rest l := by
  unfold setPathH at hs
  split at hs
  · cases hs
  · cases hs
  · rename_i to rest hw
    split at hs
    · cases hs
    · rename_i q hg
      exact ⟨to, rest, q, hw, hg, (SetRes.ok.inj hs).symm⟩

theorem setChildH_ok {fuel : Nat} {h h' : Heap} {c child : Id} {segs : List Seg}
    (hs : setChildH fuel h c segs child = .ok h') :
    ∃ t rest q, walkSet h c segs = .stop t rest ∧ getSub h t = some q ∧ h' = setChain h t rest (.child child) ∧
      holdsH fuel h child t = false := by
  have key : ∀ (b : Bool) (r : SetRes), (if b = true then SetRes.err else r) = .ok h' → b = false ∧ r = .ok h' := by
    intro b r; cases b <;> simp
  unfold setChildH at hs
  obtain ⟨hcyc, hs⟩ := key _ _ hs
  obtain ⟨t, rest, q, hw, hg, rfl⟩ := setPathH_ok hs
  have hcont : containerOf h c segs = some t := by unfold containerOf; rw [hw]; simp [hg]
  rw [hcont] at hcyc
  simp only [Bool.or_eq_false_iff] at hcyc
  exact ⟨t, rest, q, hw, hg, rfl, hcyc.2.2⟩

theorem setPathH_stable (st : Stable base P D) {h h' : Heap} {root : Id} {segs : List Seg} {k v : String}
    (hd : ∀ to rest, walkSet h root segs = .stop to rest → D to) (ph : P h)
    (hs : setPathH h root segs (.prim k v) = .ok h') : P h' := by
  obtain ⟨to, rest, q, hw, hg, rfl⟩ := setPathH_ok hs
  exact setChain_stable st k v rest h to ph (hd to rest hw) (getSub_lt hg)

/-- the new nodes form a chain below `to`: each stores the one above as parent and its segment as name; the last one is
the value -/
theorem setChain_chain (k v : String) : ∀ (rest : List Seg) (h : Heap) (to : Id), to < h.length → rest ≠ [] →
    (∀ s ∈ rest, s.str ≠ "") →
    ∃ links : List (String × Id), links.map (·.1) = rest.map Seg.str ∧ Chain (setChain h to rest (.prim k v)) to links ∧
      ∃ nm leaf p, links.getLast? = some (nm, leaf) ∧
        (setChain h to rest (.prim k v))[leaf]? = some ⟨some p, nm, .prim k v⟩ := by
  intro rest
  induction rest with
  | nil => intro _ _ _ hne _; exact absurd rfl hne
  | cons s r ih =>
    intro h to hto _ hnames
    cases r with
    | nil =>
      have hleaf := storeSeg_new hto ⟨some to, s.str, .prim k v⟩ s
      exact ⟨[(s.str, h.length)], rfl, ⟨⟨_, hleaf⟩, hnames s (List.mem_cons_self ..), trivial⟩, s.str, h.length, to, rfl, hleaf⟩
    | cons s2 r2 =>
      have hc := storeSeg_new hto ⟨some to, s.str, .sub [] []⟩ s
      obtain ⟨links', hm, hch, nm, leaf, p, hlast, hl⟩ :=
        ih _ h.length (lt_of_getElem?_some hc) (List.cons_ne_nil _ _) (fun x hx => hnames x (List.mem_cons_of_mem _ hx))
      obtain ⟨b, hb⟩ := (setChain_sameCtx k v (s2 :: r2) _ h.length).2 h.length _ hc
      refine ⟨(s.str, h.length) :: links', by simp [hm], ⟨⟨b, hb⟩, hnames s (List.mem_cons_self ..), hch⟩, nm, leaf, p, ?_, hl⟩
      cases links' with
      | nil => simp at hm
      | cons x xs => rw [List.getLast?_cons_cons]; exact hlast

theorem walkSet_rest {h : Heap} {root : Id} {segs : List Seg} {to : Id} {rest : List Seg} (hne : segs ≠ [])
    (hw : walkSet h root segs = .stop to rest) : rest ≠ [] ∧ ∀ s ∈ rest, s ∈ segs := by
  fun_induction walkSet h root segs
  case case1 => exact absurd rfl hne
  -- the walk stops here (one segment left; the child is missing; the child is null): the rest is the whole address
  case case2 | case4 | case6 => cases hw; exact ⟨by simp, fun _ hs => hs⟩
  -- no stop: a dangling id (twice), a primitive that is not plain, a name or an index other than 0 below a primitive
  case case3 | case5 | case8 | case10 => cases hw
  -- one step down (or in place, for element 0 of a primitive)
  case case7 | case9 =>
    rename_i ih
    obtain ⟨h1, h2⟩ := ih (by simp) hw
    exact ⟨h1, fun x hx => List.mem_cons_of_mem _ (h2 x hx)⟩

end Ucfg.Forest
