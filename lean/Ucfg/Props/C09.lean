import Ucfg.Props.C01
import Ucfg.Lemmas.Canonical
/-
  C09 — results never depend on map iteration order.

  Wherever the Go code ranges over a map, the model takes the entries as a list in
  iteration order.  The theorems say that the observable result does not depend on
  which permutation that is.
-/
namespace Ucfg.C09
open Ucfg

/-- lookups in an association list with distinct keys do not depend on the order of its entries -/
theorem dget_perm {d d' : Dict} (hp : d.Perm d') (hnd : (dkeysOf d).Nodup) (k : String) :
    dget d k = dget d' k := by
  rw [dget_eq_lookup, dget_eq_lookup, lookup_perm hp hnd]

/-- Merging B's dictionary into A's gives the same value under every key whatever order B's
entries are enumerated in (mergeConfigDict ranges over a Go map). -/
theorem mergeDict_order_independent (h : Handling) (d1 d2 d2' : Dict) (hp : d2.Perm d2')
    (hnd : (dkeysOf d2).Nodup) (k : String) :
    dget (mergeDictP h d1 d2) k = dget (mergeDictP h d1 d2') k := by
  have hnd' : (dkeysOf d2').Nodup := (List.Perm.nodup_iff (List.Perm.map Prod.fst hp)).mp hnd
  rw [C01.dict_pointwise h d1 d2 k hnd, C01.dict_pointwise h d1 d2' k hnd', dget_perm hp hnd k]

/-- a key without separator or numeric meaning is one named segment -/
def SimpleKey (o : Opts) (k : String) : Prop := parsePathOpts k o = [.named k]

/-- creating a setting under a simple key that is not there yet stores it under that key -/
theorem setField_simple_new (o : Opts) (d : Dict) (a : List Val) (hd ha : Bool) (k : String) (v : Val)
    (hk : SimpleKey o k) (hnew : dget d k = none) :
    setField o (.sub d a hd ha) k v = .ok (.sub (dset d k v) a true ha) :=
  setField_new o d a hd ha k v hk hnew

/-- sorted insertion of two different keys commutes on every lookup -/
theorem dset_two_order (d : Dict) (k1 k2 : String) (v1 v2 : Val) (hne : k1 ≠ k2) (k : String) :
    dget (dset (dset d k1 v1) k2 v2) k = dget (dset (dset d k2 v2) k1 v1) k := by
  rw [dget_dset, dget_dset, dget_dset, dget_dset]
  by_cases h1 : k1 = k
  · have h2 : ¬ k2 = k := fun h2 => hne (h1.trans h2.symm)
    rw [if_neg h2, if_pos h1, if_pos h1]
  · rw [if_neg h1, if_neg h1]

/-- the value the entries define for key `k`: the normalized value of the (first) entry under `k` -/
def entryFor (o : Opts) : List (String × GoData) → String → Option Val
  | [], _ => none
  | (k', x) :: r, k => if k' = k then (match normValue o x with | .ok v => some v | _ => none) else entryFor o r k

theorem entryFor_eq_lookup (o : Opts) (es : List (String × GoData)) (k : String) :
    entryFor o es k = (es.lookup k).bind fun x => match normValue o x with | .ok v => some v | _ => none := by
  induction es with
  | nil => rfl
  | cons e r ih =>
    obtain ⟨k', x⟩ := e
    by_cases h : k' = k
    · rw [entryFor, if_pos h, h, List.lookup_cons_self]
      rfl
    · rw [entryFor, if_neg h, ih, List.lookup_cons, beq_eq_false_iff_ne.mpr (Ne.symm h)]

/-- normalizeMapInto over entries with distinct simple keys that are new to the config: it succeeds, leaves the list
part alone, and the dictionary answers every key with the entry for it, else with what was there -/
theorem normMapInto_simple (o : Opts) (a : List Val) (ha : Bool) :
    ∀ (es : List (String × GoData)) (d : Dict) (hd : Bool),
      (∀ e ∈ es, SimpleKey o e.1) → (es.map (·.1)).Nodup → (∀ e ∈ es, dget d e.1 = none) →
      (∀ e ∈ es, ∃ v, normValue o e.2 = .ok v) →
      ∃ d' hd', normMapInto o (.sub d a hd ha) es = .ok (.sub d' a hd' ha) ∧
        ∀ k, dget d' k = (match entryFor o es k with | some v => some v | none => dget d k) := by
  intro es
  induction es with
  | nil =>
    intro d hd _ _ _ _
    exact ⟨d, hd, rfl, fun k => by simp [entryFor]⟩
  | cons e r ih =>
    intro d hd hs hnd hnew hok
    obtain ⟨k1, x1⟩ := e
    simp only [List.map_cons, List.nodup_cons] at hnd
    obtain ⟨v1, hv1⟩ := hok (k1, x1) (by simp)
    have hs1 : SimpleKey o k1 := hs (k1, x1) (by simp)
    have hn1 : dget d k1 = none := hnew (k1, x1) (by simp)
    have hnew' : ∀ e ∈ r, dget (dset d k1 v1) e.1 = none := by
      intro e he
      have hne : k1 ≠ e.1 := fun h => hnd.1 (List.mem_map.mpr ⟨e, he, h.symm⟩)
      rw [dget_dset_other hne]
      exact hnew e (List.mem_cons_of_mem _ he)
    obtain ⟨d', hd', hrun, hlook⟩ := ih (dset d k1 v1) true (fun e he => hs e (List.mem_cons_of_mem _ he)) hnd.2 hnew'
      (fun e he => hok e (List.mem_cons_of_mem _ he))
    refine ⟨d', hd', ?_, ?_⟩
    · simp only [normMapInto, hv1, Outcome.bind_ok, setField_simple_new o d a hd ha k1 v1 hs1 hn1]
      exact hrun
    · intro k
      rw [hlook k]
      simp only [entryFor, hv1]
      by_cases hk : k1 = k
      · subst hk
        have : entryFor o r k1 = none := by rw [entryFor_eq_lookup, lookup_eq_none_of_not_mem hnd.1]; rfl
        rw [this]
        simp [dget_dset_same]
      · rw [if_neg hk]
        cases entryFor o r k with
        | some v => rfl
        | none => simp [dget_dset_other hk]

/-- C09 for maps with simple keys: whatever order Go's map iteration produces the entries in, every key of the
resulting config holds the same value -/
theorem normMapInto_order_independent (o : Opts) (a : List Val) (ha hd : Bool) (d : Dict)
    (es es' : List (String × GoData)) (hp : es.Perm es')
    (hs : ∀ e ∈ es, SimpleKey o e.1) (hnd : (es.map (·.1)).Nodup) (hnew : ∀ e ∈ es, dget d e.1 = none)
    (hok : ∀ e ∈ es, ∃ v, normValue o e.2 = .ok v) :
    ∃ d1 d2 h1 h2, normMapInto o (.sub d a hd ha) es = .ok (.sub d1 a h1 ha) ∧
      normMapInto o (.sub d a hd ha) es' = .ok (.sub d2 a h2 ha) ∧ ∀ k, dget d1 k = dget d2 k := by
  have hs' : ∀ e ∈ es', SimpleKey o e.1 := fun e he => hs e (hp.symm.subset he)
  have hnd' : (es'.map (·.1)).Nodup := (List.Perm.nodup_iff (List.Perm.map Prod.fst hp)).mp hnd
  have hnew' : ∀ e ∈ es', dget d e.1 = none := fun e he => hnew e (hp.symm.subset he)
  have hok' : ∀ e ∈ es', ∃ v, normValue o e.2 = .ok v := fun e he => hok e (hp.symm.subset he)
  obtain ⟨d1, h1, r1, l1⟩ := normMapInto_simple o a ha es d hd hs hnd hnew hok
  obtain ⟨d2, h2, r2, l2⟩ := normMapInto_simple o a ha es' d hd hs' hnd' hnew' hok'
  refine ⟨d1, d2, h1, h2, r1, r2, ?_⟩
  intro k
  rw [l1 k, l2 k, entryFor_eq_lookup, entryFor_eq_lookup, lookup_perm hp hnd]

example : SimpleKey {} "abc" := by unfold SimpleKey; decide +kernel
example : ([("a", Val.nilV), ("b", Val.nilV)] : Dict).Perm [("b", Val.nilV), ("a", Val.nilV)] := List.Perm.swap _ _ _

end Ucfg.C09
