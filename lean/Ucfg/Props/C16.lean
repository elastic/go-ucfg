import Ucfg.Lemmas.Path
import Ucfg.Model.TreeEq
/-
  C16 — a per-field merge policy applies to exactly the named subtree.

  `mergeValsF h ft` is the merge under global policy `h` and per-field policy tree `ft`
  (Model/Merge.lean, transcribing fieldOptsOverride / fieldHandlingTree.fieldHandling /
  includeWildcard).  The theorems say where the tree can and cannot change the merge.
-/
namespace Ucfg.C16
open Ucfg

theorem override_none (h : Handling) (name : String) (idx : Int) :
    fieldOptsOverride h none name idx = (h, none) := rfl

theorem overrideIdx_none (h : Handling) (i : Nat) : fieldOptsOverrideIdx h none i = (h, none) := rfl

/-- on values that are not sub-configurations the two merges coincide, whatever the tree -/
theorem vals_nonSub (h : Handling) (ft : Option Val) (old : Option Val) (v : Val) (hv : v.isSub = false) :
    mergeValsF h ft old v = mergeValsP h old v := by
  cases v with
  | sub d a hd ha => cases hv
  | prim p => unfold mergeValsF mergeValsP; cases p <;> rfl
  | dyn i e => unfold mergeValsF mergeValsP; rfl

mutual
theorem valsF_none (h : Handling) (old : Option Val) : ∀ (v : Val),
    mergeValsF h none old v = mergeValsP h old v
  | .prim p => vals_nonSub h none old _ rfl
  | .dyn i e => vals_nonSub h none old _ rfl
  | .sub d2 a2 hd2 ha2 => by
    unfold mergeValsF mergeValsP
    simp only [fun d1 => dictF_none h d1 d2, fun a1 => arrF_none h 0 a1 a2]
theorem dictF_none (h : Handling) (d1 : Dict) : ∀ (d2 : Dict),
    mergeDictF h none d1 d2 = mergeDictP h d1 d2
  | [] => by simp [mergeDictF, mergeDictP]
  | (k, v) :: r => by
    simp only [mergeDictF, mergeDictP, override_none]
    rw [valsF_none h _ v, dictF_none h _ r]
theorem arrF_none (h : Handling) (i : Nat) (a1 : List Val) : ∀ (a2 : List Val),
    mergeArrF h none i a1 a2 = mergeArrP h a1 a2
  | [] => by cases a1 <;> simp [mergeArrF, mergeArrP]
  | y :: b => by
    cases a1 with
    | nil => simp [mergeArrF, mergeArrP]
    | cons x a =>
      simp only [mergeArrF, mergeArrP, overrideIdx_none]
      rw [valsF_none h _ y, arrF_none h (i+1) a b]
end

/-- without a policy tree the merge is the global merge (all three mutually recursive parts) -/
theorem noTree_eq_global (h : Handling) (to frm : Val) : mergeF h none to frm = mergeP h to frm := by
  cases frm with
  | prim p => rfl
  | dyn i e => rfl
  | sub d a hd ha => exact valsF_none h (some to) _

theorem fhWild_noWildcard (d : Dict) (name : String) (idx : Int) (c? : Option Val)
    (hw : dget d "**" = none) : fhWild d name idx c? = (.dflt, c?, false) := by
  induction d with
  | nil => rfl
  | cons kv r ih =>
    obtain ⟨k, v⟩ := kv
    simp only [dget] at hw
    by_cases hk : k = "**"
    · simp [hk] at hw
    · simp only [hk, if_false] at hw
      unfold fhWild
      rw [if_neg hk]
      exact ih hw

theorem ftWildcard_none (d : Dict) (a : List Val) (hd ha : Bool) (hw : dget d "**" = none) :
    ftWildcard (.sub d a hd ha) = none := by
  have hp : parsePathIdx "**" (-1) {} = [.named "**"] := by decide +kernel
  simp only [ftWildcard, ftChild, getField, hp, pathGet, fieldGet_named_sub, hw]
  rfl

/-- without a `**` entry a policy tree answers from the child of that name alone: the handling the child declares, the
default if it declares none or there is no such child -/
theorem fhNode_noWildcard (d : Dict) (a : List Val) (hd ha : Bool) (name : String) (idx : Int)
    (hw : dget d "**" = none) :
    fhNode (.sub d a hd ha) name idx =
      (match ftChild (.sub d a hd ha) name idx with
       | some c => (match ftHandlingOf c with
         | some h' => (h', some c, true)
         | none => (.dflt, some c, false))
       | none => (.dflt, none, false)) := by
  simp only [fhNode]
  cases ftChild (.sub d a hd ha) name idx with
  | none => simp [fhWild_noWildcard d name idx none hw]
  | some c => cases hh : ftHandlingOf c <;> simp [hh, fhWild_noWildcard d name idx (some c) hw]

/-- fieldOptsOverride on a tree without a `**` entry: below a key the policy is the entry's own if it carries one, else
the one in force, and the tree is the entry -/
theorem override_noWildcard (h : Handling) (d : Dict) (a : List Val) (hd ha : Bool) (name : String) (idx : Int)
    (hw : dget d "**" = none) :
    fieldOptsOverride h (some (.sub d a hd ha)) name idx =
      (match ftChild (.sub d a hd ha) name idx with
       | some c => ((ftHandlingOf c).getD h, some c)
       | none => (h, none)) := by
  have hinc : ∀ child, includeWildcard child (.sub d a hd ha) = child := fun child => by
    simp [includeWildcard, ftWildcard_none d a hd ha hw]
  simp only [fieldOptsOverride, fhNode_noWildcard d a hd ha name idx hw, hinc]
  cases ftChild (.sub d a hd ha) name idx with
  | none => rfl
  | some c => cases hh : ftHandlingOf c <;> simp [hh]

/-- A key the policy tree has no entry for (and no `**` wildcard) leaves the configured
paths: below it the policy is the global one and no tree is in force.  (Index `-1` is go-ucfg's "a name, no index":
merge.go asks `fieldOptsOverride(opts, k, -1)` for a key `k` of a dictionary and `fieldOptsOverride(opts, "", i)` for
element `i` of a list.) -/
theorem override_miss (h : Handling) (d : Dict) (a : List Val) (hd ha : Bool) (k : String)
    (hc : ftChild (.sub d a hd ha) k (-1) = none) (hw : dget d "**" = none) :
    fieldOptsOverride h (some (.sub d a hd ha)) k (-1) = (h, none) := by
  rw [override_noWildcard h d a hd ha k (-1) hw, hc]

/-- … hence a setting outside every configured path is merged exactly as under the global
policy alone. -/
theorem outside_unaffected (h : Handling) (d : Dict) (a : List Val) (hd ha : Bool) (k : String)
    (hc : ftChild (.sub d a hd ha) k (-1) = none) (hw : dget d "**" = none)
    (old : Option Val) (v : Val) :
    mergeValsF (fieldOptsOverride h (some (.sub d a hd ha)) k (-1)).1
               (fieldOptsOverride h (some (.sub d a hd ha)) k (-1)).2 old v = mergeValsP h old v := by
  rw [override_miss h d a hd ha k hc hw]
  exact valsF_none h old v

/-- A key with an entry that carries a policy switches to that policy (and descends into
the entry's subtree). -/
theorem override_hit (h h' : Handling) (d : Dict) (a : List Val) (hd ha : Bool) (k : String) (c : Val)
    (hc : ftChild (.sub d a hd ha) k (-1) = some c) (hh : ftHandlingOf c = some h')
    (hw : dget d "**" = none) :
    fieldOptsOverride h (some (.sub d a hd ha)) k (-1) = (h', some c) := by
  simp only [override_noWildcard h d a hd ha k (-1) hw, hc, hh, Option.getD_some]

/-- A list element the policy tree has neither an index entry nor a `*` entry for (and no `**` wildcard) leaves the
configured paths as well: a policy configured for `l.1` does not reach `l.2.1`, one for `c.b` does not reach `c.0.b`.
(In a policy tree the name `*` holds the entry for all elements of a list - fieldOptsOverrideIdx falls back on it - and
`**` the entry handed down to every level, opts.go.) -/
theorem elem_miss (h : Handling) (d : Dict) (a : List Val) (hd ha : Bool) (i : Nat)
    (hi : ftChild (.sub d a hd ha) "" i = none) (hs : ftChild (.sub d a hd ha) "*" (-1) = none)
    (hw : dget d "**" = none) :
    fieldOptsOverrideIdx h (some (.sub d a hd ha)) i = (h, none) := by
  rw [fieldOptsOverrideIdx, fhNode_noWildcard d a hd ha "" i hw, hi]
  -- no entry for the index: the entry for all elements (`*`) is asked
  exact (if_neg Bool.false_ne_true).trans (override_miss h d a hd ha "*" hs hw)

/-- … so such an element is merged exactly as under the policy in force at the list -/
theorem elem_outside_unaffected (h : Handling) (d : Dict) (a : List Val) (hd ha : Bool) (i : Nat)
    (hi : ftChild (.sub d a hd ha) "" i = none) (hs : ftChild (.sub d a hd ha) "*" (-1) = none)
    (hw : dget d "**" = none) (old : Option Val) (v : Val) :
    mergeValsF (fieldOptsOverrideIdx h (some (.sub d a hd ha)) i).1
               (fieldOptsOverrideIdx h (some (.sub d a hd ha)) i).2 old v = mergeValsP h old v := by
  rw [elem_miss h d a hd ha i hi hs hw]
  exact valsF_none h old v

/-- An element with an index entry that carries a policy is merged under that policy, whatever the `*` entry says. -/
theorem elem_hit (h h' : Handling) (d : Dict) (a : List Val) (hd ha : Bool) (i : Nat) (c : Val)
    (hc : ftChild (.sub d a hd ha) "" i = some c) (hh : ftHandlingOf c = some h')
    (hw : dget d "**" = none) :
    fieldOptsOverrideIdx h (some (.sub d a hd ha)) i = (h', some c) := by
  simp only [fieldOptsOverrideIdx, fhNode_noWildcard d a hd ha "" i hw, hc, hh, Bool.true_or, if_true,
    override_noWildcard h d a hd ha "" i hw, Option.getD_some]

/-! non-vacuity: the tree FieldAppendValues("l") builds, a key with and a key without an entry -/
def exTree : Val := .sub [("l", .sub [("*", .prim (.uint 3))] [] true false)] [] true false
example : ftChild exTree "x" (-1) = none := by decide +kernel
example : fieldOptsOverride .dflt (some exTree) "x" (-1) = (.dflt, none) := by decide +kernel
example : (fieldOptsOverride .dflt (some exTree) "l" (-1)).1 = .append := by decide +kernel

/-- the tree FieldAppendValues("l.1") builds: element 1 has the entry, element 2 leaves the configured paths -/
def exIdxTree : Val := .sub [] [.prim .nil, .sub [("*", .prim (.uint 3))] [] true false] false true
example : fieldOptsOverrideIdx .dflt (some exIdxTree) 1 = (.append, some (.sub [("*", .prim (.uint 3))] [] true false)) := by decide +kernel
example : fieldOptsOverrideIdx .dflt (some exIdxTree) 2 = (.dflt, none) := by decide +kernel
example : ftChild exIdxTree "" 2 = none ∧ ftChild exIdxTree "*" (-1) = none := by decide +kernel

end Ucfg.C16
