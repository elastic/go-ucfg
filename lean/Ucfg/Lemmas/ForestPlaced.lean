import Ucfg.Lemmas.ForestSet
/-!
  "Every node stores the position it is at" as an invariant of the whole heap (`WP`): each entry of a node's dictionary
  stores this node as its parent and the entry's key as its name, each element of its list stores this node and its index.
  Deep copies keep it (`cpy_wp`, from `cpy_succ_inv`); it is `Stable` (`wp_stable`), so NewFrom, Merge and Set* keep it.
  `wp_arr_nodup` is what the theorems about Remove in Props/C15 need.
-/
namespace Ucfg.Forest

def Placed (h : Heap) (a : Id) : Body → Prop
  | .prim .. => True
  | .sub d arr =>
    (∀ kc ∈ d, ∃ b, h[kc.2]? = some (⟨some a, kc.1, b⟩ : Node)) ∧
    (∀ (i : Nat) (c : Id), arr[i]? = some c → ∃ b, h[c]? = some (⟨some a, idxName i, b⟩ : Node))

/-- well placed: the stored positions are the actual positions, everywhere -/
def WP (h : Heap) : Prop := ∀ (a : Nat) (nd : Node), h[a]? = some nd → Placed h a nd.body

theorem placed_iff {h : Heap} {a : Id} {b : Body} :
    Placed h a b ↔ ∀ k x, Entry b k x → ∃ bx, h[x]? = some (⟨some a, k, bx⟩ : Node) := by
  cases b with
  | prim kd v => exact ⟨fun _ _ _ e => e.elim, fun _ => trivial⟩
  | sub d arr =>
    constructor
    · rintro ⟨p1, p2⟩ k x (hm | ⟨i, hi, rfl⟩)
      · exact p1 (k, x) hm
      · exact p2 i x hi
    · intro hp
      exact ⟨fun kc hkc => hp kc.1 kc.2 (.inl hkc), fun i c hc => hp _ c (.inr ⟨i, hc, rfl⟩)⟩

theorem Placed.mono {h h' : Heap} {a : Id} {b : Body} (p : Placed h a b) (s : SameCtx h h') : Placed h' a b :=
  placed_iff.mpr fun k x e => let ⟨_, hb⟩ := placed_iff.mp p k x e; s.2 _ _ hb

theorem wp_setBody {h : Heap} {to : Id} {b : Body} (w : WP h) (pb : Placed h to b) : WP (setBody h to b) := by
  have s : SameCtx h (setBody h to b) := (upd_setBody h to b).sameCtx
  intro a nd hn
  rcases setBody_cases hn with ⟨_, hn0⟩ | ⟨rfl, hbody⟩
  · exact (w a nd hn0).mono s
  · exact hbody ▸ pb.mono s

theorem wp_append_leaf {h : Heap} {nd : Node} (w : WP h) (hk : nd.body.children = []) : WP (h ++ [nd]) := by
  intro a nd' hn
  rcases getElem?_append_cases hn with ⟨_, hn⟩ | ⟨_, hn⟩
  · exact (w a nd' hn).mono (upd_append h 0 [nd]).sameCtx
  · rw [List.mem_singleton.mp (List.mem_of_getElem? hn)]
    exact placed_iff.mpr fun k x e => absurd e.mem_children (by rw [hk]; exact List.not_mem_nil)

/-- what `cpyList_wp` asks of the copying function and the induction over the fuel in `cpy_wp` supplies -/
def CpyWP (f : Heap → Id → Option Id → String → Option (Heap × Id)) : Prop :=
  ∀ (h : Heap) (c : Id) (p : Option Id) (fl : String) (h' : Heap) (id' : Id), WP h → f h c p fl = some (h', id') → WP h'

theorem cpyList_wp {κ : Type} (f : Heap → Id → Option Id → String → Option (Heap × Id)) (me : Nat)
    (hf : Good f 0) (hw : CpyWP f) :
    ∀ (cs : List (κ × Id)) (h h2 : Heap) (cs' : List (κ × Id)), WP h →
      cpyList f me h cs = some (h2, cs') →
      WP h2 ∧ (∃ t, h2 = h ++ t) ∧ cs'.length = cs.length ∧
      ∀ (i : Nat) (kc kc' : κ × Id), cs[i]? = some kc → cs'[i]? = some kc' →
        kc'.1 = kc.1 ∧ ∀ n : Node, h[kc.2]? = some n → ∃ b, h2[kc'.2]? = some (⟨some me, n.field, b⟩ : Node) := by
  intro cs h h2 cs' w he
  obtain ⟨e, hlen, hrel⟩ := cpyList_shape f me hf cs h h2 cs' he
  exact ⟨cpyList_keeps me hw cs h h2 cs' w he, e, hlen, fun i kc kc' hi hi' =>
    ⟨(hrel i kc kc' hi hi').1, (hrel i kc kc' hi hi').2.2.2⟩⟩

/-- a deep copy keeps the invariant: the copy is built from nodes that store their positions in the copy -/
theorem cpy_wp : ∀ n : Nat, CpyWP (cpy n) := by
  intro n
  induction n with
  | zero => intro h c p fl h' id' _ he; cases he
  | succ n ih =>
    intro h id p fl h' id' w he
    obtain ⟨_, ⟨k, v, rfl⟩ | ⟨nd, t, b, _, hn, rfl, rfl, keep, hent⟩⟩ := cpy_succ_inv (cpy_ext n) he
    · exact wp_append_leaf w rfl
    · refine wp_setBody (keep ih (wp_append_leaf w rfl)) (placed_iff.mpr fun k x e => ?_)
      obtain ⟨c, ec, _, _, hctx⟩ := hent k x e
      -- the source node is placed in `h`: its child `c` stores the name `k` it is listed under, and so does the copy
      obtain ⟨b0, hb0⟩ := placed_iff.mp (w id nd hn) k c ec
      exact hctx _ hb0

theorem placed_of_getSub {h : Heap} (w : WP h) {to : Id} {p f d a} (hg : getSub h to = some (p, f, d, a)) :
    Placed h to (.sub d a) :=
  w to ⟨p, f, .sub d a⟩ (getSub_node hg)

theorem wp_stable : Stable 0 WP (fun _ => True) where
  len := fun _ => Nat.zero_le _
  alloc := fun w hk => wp_append_leaf w hk
  link := fun {_ to nd _} w _ hn hsub => wp_setBody w (placed_iff.mpr fun k x e =>
    (hsub k x e).elim (placed_iff.mp (w to nd hn) k x) (fun n => n.2.2))
  copy := fun w hc => cpy_wp _ _ _ _ _ _ _ w hc
  down := fun _ _ _ _ => trivial
  fresh := fun _ => trivial

theorem appendCpy_wp (cf : Nat) : ∀ (src : List Id) (h h' : Heap) (to : Id),
    WP h → appendCpy cf h to src = some h' → WP h' :=
  fun src h h' to w he => appendCpy_stable wp_stable cf src h h' to w trivial he

theorem padTo_wp : ∀ (n : Nat) (h : Heap) (to idx : Nat), WP h →
    WP (padTo n h to idx) ∧
    (getSub h to = none → padTo n h to idx = h) ∧
    (∀ p f d a, getSub h to = some (p, f, d, a) →
      ∃ pad, getSub (padTo n h to idx) to = some (p, f, d, a ++ pad) ∧ (idx ≤ a.length + n → idx ≤ (a ++ pad).length)) :=
  fun n h to idx w => ⟨padTo_stable wp_stable n h to idx w trivial, fun hg => padTo_none hg n idx,
    fun _ _ _ _ hg => (padTo_getSub n h to idx hg).imp fun _ e => ⟨e.1, e.2.1⟩⟩

/-- not an instance of `setAt_stable`, whose `NewAt` asks `to < c`: here `c` may be any node that stores the slot -/
theorem setAt_wp (h : Heap) (to idx c : Nat) (w : WP h)
    (hc : ∃ b, h[c]? = some (⟨some to, idxName idx, b⟩ : Node)) : WP (setAt h to idx c) := by
  obtain ⟨b0, hb0⟩ := hc
  have hc1 := (padTo_upd (idx + 1) h to idx).sameCtx.2 _ _ hb0
  have w1 := padTo_stable wp_stable (idx + 1) h to idx w trivial
  rcases setAt_cases h to idx c with ⟨_, e⟩ | ⟨p, f, d, a1, b, hg1, e, hent⟩ <;> rw [e]
  · exact w1
  · exact wp_setBody w1 (placed_iff.mpr fun k x en =>
      (hent k x en).elim (placed_iff.mp (placed_of_getSub w1 hg1) k x) (fun ⟨hk, hx⟩ => hk ▸ hx ▸ hc1))

/-- each element stores its own index, so no node is listed twice -/
theorem wp_arr_nodup {h : Heap} (w : WP h) {to : Id} {p f d a} (hg : getSub h to = some (p, f, d, a)) : a.Nodup := by
  have pl := placed_of_getSub w hg
  rw [List.nodup_iff_pairwise_ne, List.pairwise_iff_getElem]
  intro i j hi hj hij he
  obtain ⟨b1, h1⟩ := pl.2 i a[i] (List.getElem?_eq_getElem hi)
  have hj' : a[j]? = some a[i] := by rw [he]; exact List.getElem?_eq_getElem hj
  obtain ⟨b2, h2⟩ := pl.2 j a[i] hj'
  rw [h1] at h2
  simp only [Option.some.injEq, Node.mk.injEq] at h2
  exact absurd (idxName_inj h2.2.1) (Nat.ne_of_lt hij)

end Ucfg.Forest
