import Ucfg.Lemmas.ForestStable
/-!
  The frame of a heap-level merge: given a set `S` of node ids that nothing outside of it points into, a merge whose
  destination lies outside `S` leaves every node of `S` exactly as it was.
-/
namespace Ucfg.Forest

variable (S : Id → Prop) (base : Nat)

/-- `S` is meant to hold of the side of an operation that is only read - the source's tree, a third config - while the
writes go to nodes outside it: no link a merge follows (a node's entries) leads from outside `S` into `S` -/
def Sep (h : Heap) : Prop := ∀ x nd, h[x]? = some nd → ¬ S x → ∀ c ∈ nd.body.children, ¬ S c

/-- the frame of an operation relative to `S`, from the heap `h` it started from to `h'` -/
def Keeps (h h' : Heap) : Prop := (∀ i, S i → h'[i]? = h[i]?) ∧ h.length ≤ h'.length

theorem Keeps.refl {S : Id → Prop} (h : Heap) : Keeps S h h := ⟨fun _ _ => rfl, Nat.le_refl _⟩

theorem Keeps.trans {S : Id → Prop} {h1 h2 h3 : Heap} (a : Keeps S h1 h2) (b : Keeps S h2 h3) : Keeps S h1 h3 :=
  ⟨fun i hi => by rw [b.1 i hi, a.1 i hi], Nat.le_trans a.2 b.2⟩

theorem Ext.keeps {S : Id → Prop} {h h' : Heap} (e : Ext h h') (hS : ∀ i, S i → i < h.length) : Keeps S h h' :=
  ⟨fun i hi => e.old (hS i hi), e.len⟩

theorem frame_setBody {h : Heap} {to : Id} {b : Body} (hto : ¬ S to)
    (hsep : Sep S h) (hb : ∀ c ∈ b.children, ¬ S c) :
    Sep S (setBody h to b) ∧ Keeps S h (setBody h to b) := by
  refine ⟨?_, ⟨fun i hi => setBody_other (fun e => hto (e ▸ hi)), by rw [setBody_length]; exact Nat.le_refl _⟩⟩
  intro x nd hx hnx c hc
  rcases setBody_cases hx with ⟨_, hx0⟩ | ⟨_, hbody⟩
  · exact hsep x nd hx0 hnx c hc
  · exact hb c (hbody ▸ hc)

/-- `Sep` and `Keeps` survive a deep copy: the nodes it appends list only new nodes (`cpy_fresh`), and `S` lies below `base` -/
theorem frame_cpy (hS : ∀ i : Nat, S i → i < base) {cf : Nat} {h h1 : Heap} {v c : Id} {p : Option Id} {k : String}
    (hb : base ≤ h.length) (hsep : Sep S h) (hc : cpy cf h v p k = some (h1, c)) :
    Sep S h1 ∧ Keeps S h h1 ∧ base ≤ h1.length := by
  obtain ⟨t, rfl, _, hfr, _⟩ := cpy_fresh hc
  refine ⟨?_, Ext.keeps ⟨t, rfl⟩ fun i hi => Nat.lt_of_lt_of_le (hS i hi) hb, Nat.le_trans hb (Ext.len ⟨t, rfl⟩)⟩
  intro x nd hx hnx ch hch
  rcases getElem?_append_cases hx with ⟨_, hx⟩ | ⟨_, hx⟩
  · exact hsep x nd hx hnx ch hch
  · have h1 : h.length ≤ ch := hfr nd (List.mem_of_getElem? hx) ch hch
    intro hs
    have h2 : ch < base := hS ch hs
    exact absurd (Nat.lt_of_lt_of_le h2 hb) (Nat.not_lt.mpr h1)

/-- the frame as a `Stable` property, relative to the heap `h0` the operation started from -/
theorem frame_stable (hS : ∀ i : Nat, S i → i < base) (h0 : Heap) :
    Stable base (fun h => Sep S h ∧ Keeps S h0 h ∧ base ≤ h.length) (fun i => ¬ S i) where
  len := fun ⟨_, _, hb⟩ => hb
  alloc := by
    intro h nd ⟨hsep, hk, hb⟩ hnd
    refine ⟨?_, hk.trans (Ext.keeps ⟨_, rfl⟩ fun i hi => Nat.lt_of_lt_of_le (hS i hi) hb),
      Nat.le_trans hb (Ext.len ⟨_, rfl⟩)⟩
    intro x nd' hx hnx c hc
    rcases getElem?_append_cases hx with ⟨_, hx⟩ | ⟨_, hx⟩
    · exact hsep x nd' hx hnx c hc
    · rw [List.mem_singleton.mp (List.mem_of_getElem? hx), hnd] at hc
      cases hc
  link := by
    intro h to nd b ⟨hsep, hk, hb⟩ hto hn hsub
    obtain ⟨s1, k1⟩ := frame_setBody S hto hsep (fun x hx => by
      obtain ⟨k, e⟩ := mem_children.mp hx
      rcases hsub k x e with e0 | ⟨hge, _⟩
      · exact hsep _ _ hn hto x e0.mem_children
      · exact fun hs => absurd (hS x hs) (Nat.not_lt.mpr hge))
    exact ⟨s1, hk.trans k1, by rw [setBody_length]; exact hb⟩
  copy := by
    intro cf h h1 v c p k ⟨hsep, hk, hb⟩ hc
    obtain ⟨s1, k1, hb1⟩ := frame_cpy S base hS hb hsep hc
    exact ⟨s1, hk.trans k1, hb1⟩
  down := fun ⟨hsep, _, _⟩ hto hn e => hsep _ _ hn hto _ e.mem_children
  fresh := fun hge hs => absurd (hS _ hs) (Nat.not_lt.mpr hge)

/-- the frame of the three merge functions: what `merge_stable` says for `frame_stable` -/
structure MClaims (n : Nat) : Prop where
  mh : ∀ (cf : Nat) (pol : ArrPol) (h h' : Heap) (to frm : Id), base ≤ h.length → Sep S h → ¬ S to →
    mergeH n cf pol h to frm = some h' → Sep S h' ∧ Keeps S h h' ∧ base ≤ h'.length
  md : ∀ (cf : Nat) (pol : ArrPol) (h h' : Heap) (to : Id) (fd : List (String × Id)), base ≤ h.length → Sep S h → ¬ S to →
    mergeDictH n cf pol h to fd = some h' → Sep S h' ∧ Keeps S h h' ∧ base ≤ h'.length
  mi : ∀ (cf : Nat) (pol : ArrPol) (h h' : Heap) (to : Id) (i : Nat) (fa : List Id), base ≤ h.length → Sep S h → ¬ S to →
    mergeIdxH n cf pol h to i fa = some h' → Sep S h' ∧ Keeps S h h' ∧ base ≤ h'.length

theorem mclaims (hS : ∀ i : Nat, S i → i < base) : ∀ n, MClaims S base n := by
  intro n
  refine ⟨?_, ?_, ?_⟩
  · intro cf pol h h' to frm hb hsep hto he
    exact (merge_stable (frame_stable S base hS h) n).mh ⟨hsep, Keeps.refl h, hb⟩ hto he
  · intro cf pol h h' to fd hb hsep hto he
    exact (merge_stable (frame_stable S base hS h) n).md ⟨hsep, Keeps.refl h, hb⟩ hto he
  · intro cf pol h h' to i fa hb hsep hto he
    exact (merge_stable (frame_stable S base hS h) n).mi ⟨hsep, Keeps.refl h, hb⟩ hto he

end Ucfg.Forest
