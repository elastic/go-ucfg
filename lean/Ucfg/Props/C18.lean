import Ucfg.Model.Frontends
import Ucfg.Props.C03
import Ucfg.Lemmas.F64Int
/-!
  C18 — the three front-ends agree.  The decoders themselves are third-party; the model starts at the decoded
  document.  What is proved here: the JSON/HJSON re-representation of a document (`jsonFlavour`) keeps its shape and
  every non-numeric leaf, and a number keeps its *value*: the float64 an integer below 2^53 becomes converts back to
  exactly that integer (and to the same float) through the conversions every typed and generic read uses.
-/
namespace Ucfg.C18
open Ucfg

/-- keys and order of a dictionary are those of the yaml-decoded document -/
theorem jsonFlavourM_keys (m : List (String × GoData)) : (jsonFlavourM m).map (·.1) = m.map (·.1) := by
  induction m with
  | nil => simp [jsonFlavourM]
  | cons kv r ih => obtain ⟨k, d⟩ := kv; simp [jsonFlavourM, ih]

theorem jsonFlavourL_length (l : List GoData) : (jsonFlavourL l).length = l.length := by
  induction l with
  | nil => simp [jsonFlavourL]
  | cons d r ih => simp [jsonFlavourL, ih]

/-- strings, booleans and nulls are the same value in every front-end -/
theorem jsonFlavour_str (s : String) : jsonFlavour (.str s) = .str s := rfl
theorem jsonFlavour_bool (b : Bool) : jsonFlavour (.bool b) = .bool b := rfl
theorem jsonFlavour_nil : jsonFlavour .nil = .nil := rfl
/-- a float literal is the same float64 in every front-end -/
theorem jsonFlavour_float (b : Nat) : jsonFlavour (.float b) = .float b := rfl

end Ucfg.C18

namespace Ucfg.C18
open Ucfg Ucfg.C03 Ucfg.Spec.C03

/-! ### numbers keep their value

yaml.v2 hands an integer literal to NewFrom as an `int`, encoding/json and hjson-go as the `float64` nearest to it.
For |i| < 2^53 that float64 *is* i (`F64.ofInt_exact`), and every numeric read gives the same result on both. -/

/-- |i| < 2^53: reading the JSON flavour of an integer setting as an integer gives that integer -/
theorem int_setting_same_toInt (i : Int) (h : i.natAbs < 2 ^ 53) :
    toOpt (Prim.toInt (.float (F64.ofInt i))) = toOpt (Prim.toInt (.int i)) := by
  obtain ⟨m, e, hd, ht, _⟩ := F64.ofInt_exact i h
  have hr : intRange 64 i = true := by
    rw [intRange64, Bool.and_eq_true, decide_eq_true_eq, decide_eq_true_eq]; omega
  rw [float_toInt, hd]
  simp only [F64.truncFin, ht, F64.sgn_natAbs, hr, if_true]
  rfl

/-- 0 ≤ i < 2^53: the same for unsigned reads -/
theorem int_setting_same_toUint (i : Int) (hnn : 0 ≤ i) (h : i.natAbs < 2 ^ 53) :
    toOpt (Prim.toUint (.float (F64.ofInt i))) = toOpt (Prim.toUint (.int i)) := by
  obtain ⟨m, e, hd, ht, _⟩ := F64.ofInt_exact i h
  have hneg : decide (i < 0) = false := decide_eq_false (Int.not_lt.mpr hnn)
  have hr : uintRange 64 (i.natAbs : Int) = true := by
    simp only [uintRange, Bool.and_eq_true, decide_eq_true_eq]; omega
  rw [float_toUint, hd]
  simp only [hneg, Bool.false_and, Bool.false_eq_true, if_false, ht, hr, if_true, Prim.toUint,
    Extracted.guard_intToUint_negative, toOpt]
  rw [show i.natAbs = i.toNat from Int.ofNat_inj.mp (by rw [Int.natAbs_of_nonneg hnn, Int.toNat_of_nonneg hnn])]

/-- negative integers are rejected by unsigned reads in both flavours -/
theorem negative_setting_rejected_toUint (i : Int) (hneg : i < 0) (h : i.natAbs < 2 ^ 53) :
    toOpt (Prim.toUint (.float (F64.ofInt i))) = none ∧ toOpt (Prim.toUint (.int i)) = none := by
  obtain ⟨m, e, hd, _, hz⟩ := F64.ofInt_exact i h
  have hm : (m != 0) = true := by rw [bne_iff_ne, Ne, hz]; omega
  constructor
  · rw [float_toUint, hd]
    simp only [decide_eq_true hneg, hm, Bool.and_self, if_true]
  · simp only [Prim.toUint, Extracted.guard_intToUint_negative, decide_eq_true hneg, if_true, toOpt_raiseRaw]

/-- reading as a float gives the same float64 in both flavours, for every integer -/
theorem int_setting_same_toFloat (std : Stdlib) (i : Int) :
    Prim.toFloat std (.float (F64.ofInt i)) = Prim.toFloat std (.int i) := by
  simp [Prim.toFloat]

/-- non-vacuity: 2^53 - 1 and -(2^53 - 1) are covered, 2^53 + 1 is where float64 stops being exact -/
example : ((2 : Int) ^ 53 - 1).natAbs < 2 ^ 53 ∧ (-((2 : Int) ^ 53 - 1)).natAbs < 2 ^ 53 := by decide +kernel
example : F64.ofInt (2 ^ 53 + 1) = F64.ofInt (2 ^ 53) := by decide +kernel

end Ucfg.C18
