/-
  Association lists keyed by strings.  The model inserts into a key-sorted list at several value types (`dset` for
  config dictionaries; `dataSet` and `gmapSet`, Lean definitions for the generic view and for Go map values, are tied to
  `ains` below); here is that insertion and what it does to membership and sortedness, and what distinct keys give a
  lookup, once for every value type.
-/
namespace Ucfg
variable {α : Type}

/-- the one sorted insertion that the model's three (`dset`, `dataSet`, `gmapSet`) are shown equal to -/
def ains : List (String × α) → String → α → List (String × α)
  | [], n, x => [(n, x)]
  | (k, v) :: r, n, x =>
    if n = k then (k, x) :: r
    else if n < k then (n, x) :: (k, v) :: r
    else (k, v) :: ains r n x

/-- sortedness as a `Prop` over core's `List.Pairwise`, so that its lemmas apply -/
abbrev KeysSorted (l : List (String × α)) : Prop := l.Pairwise (fun e e' => e.1 < e'.1)

theorem str_tri {a b : String} (h1 : ¬ a = b) (h2 : ¬ a < b) : b < a :=
  Classical.byContradiction fun h => h1 (String.le_antisymm (String.not_lt.mp h) (String.not_lt.mp h2))

theorem mem_ains {l : List (String × α)} {k : String} {v : α} (hs : KeysSorted l) {e : String × α}
    (he : e ∈ ains l k v) : e = (k, v) ∨ (e ∈ l ∧ e.1 ≠ k) := by
  induction l with
  | nil => exact Or.inl (by simpa [ains] using he)
  | cons e₁ r ih =>
    obtain ⟨k₁, v₁⟩ := e₁
    obtain ⟨hb, hsr⟩ := List.pairwise_cons.mp hs
    -- an entry of the tail has a key above k₁
    have tail : ∀ {k₀}, k₀ = k₁ ∨ k₀ < k₁ → e ∈ r → e ∈ (k₁, v₁) :: r ∧ e.1 ≠ k₀ := fun hk₀ h =>
      ⟨List.mem_cons_of_mem _ h, fun hk => String.lt_irrefl k₁ (by
        have := hb e h
        rcases hk₀ with rfl | hlt
        · rwa [hk] at this
        · exact String.lt_trans (hk ▸ this) hlt)⟩
    simp only [ains] at he
    split at he
    · rename_i h1
      rcases List.mem_cons.mp he with h | h
      · exact Or.inl (h1 ▸ h)
      · exact Or.inr (tail (Or.inl h1) h)
    · rename_i h1
      split at he
      · rename_i h2
        rcases List.mem_cons.mp he with h | h
        · exact Or.inl h
        · rcases List.mem_cons.mp h with h | h
          · exact Or.inr ⟨List.mem_cons.mpr (.inl h), fun hk => h1 (hk.symm.trans (congrArg Prod.fst h))⟩
          · exact Or.inr (tail (Or.inr h2) h)
      · rcases List.mem_cons.mp he with h | h
        · exact Or.inr ⟨List.mem_cons.mpr (.inl h), fun hk => h1 (hk.symm.trans (congrArg Prod.fst h))⟩
        · exact (ih hsr h).imp_right fun ⟨hm, hne⟩ => ⟨List.mem_cons_of_mem _ hm, hne⟩

theorem ains_sorted {l : List (String × α)} (k : String) (v : α) (hs : KeysSorted l) : KeysSorted (ains l k v) := by
  induction l with
  | nil => simp [ains, KeysSorted]
  | cons e₁ r ih =>
    obtain ⟨k₁, v₁⟩ := e₁
    obtain ⟨hb, hsr⟩ := List.pairwise_cons.mp hs
    simp only [ains]
    split
    · exact List.pairwise_cons.mpr ⟨hb, hsr⟩
    · rename_i h1
      split
      · rename_i h2
        refine List.pairwise_cons.mpr ⟨fun e he => ?_, hs⟩
        rcases List.mem_cons.mp he with rfl | he
        · exact h2
        · exact String.lt_trans h2 (hb e he)
      · rename_i h2
        refine List.pairwise_cons.mpr ⟨fun e he => ?_, ih hsr⟩
        rcases mem_ains hsr he with rfl | ⟨he, _⟩
        · exact str_tri h1 h2
        · exact hb e he

theorem KeysSorted.nodup {l : List (String × α)} (hs : KeysSorted l) : (l.map Prod.fst).Nodup :=
  List.pairwise_map.mpr (hs.imp fun h e => by rw [e] at h; exact String.lt_irrefl _ h)

theorem ains_ne_nil (l : List (String × α)) (k : String) (v : α) : ains l k v ≠ [] := by
  cases l with
  | nil => exact List.cons_ne_nil _ _
  | cons e r =>
    rw [ains]
    split
    · exact List.cons_ne_nil _ _
    · split <;> exact List.cons_ne_nil _ _

theorem lookup_eq_some_iff_mem {l : List (String × α)} (hnd : (l.map Prod.fst).Nodup) {k : String} {v : α} :
    l.lookup k = some v ↔ (k, v) ∈ l := by
  induction l with
  | nil => simp
  | cons e r ih =>
    obtain ⟨k₁, v₁⟩ := e
    obtain ⟨h1, h2⟩ := List.nodup_cons.mp hnd
    by_cases hk : k = k₁
    · subst hk
      have : (k, v) ∉ r := fun hm => h1 (List.mem_map.mpr ⟨(k, v), hm, rfl⟩)
      simp [this, eq_comm]
    · have hb : (k == k₁) = false := beq_eq_false_iff_ne.mpr hk
      simp [List.lookup_cons, hb, hk, ih h2]

theorem lookup_perm {l l' : List (String × α)} (hp : l.Perm l') (hnd : (l.map Prod.fst).Nodup) (k : String) :
    l.lookup k = l'.lookup k := by
  apply Option.ext
  intro v
  rw [lookup_eq_some_iff_mem hnd, lookup_eq_some_iff_mem ((hp.map Prod.fst).nodup hnd), hp.mem_iff]

theorem lookup_eq_none_of_not_mem {l : List (String × α)} {k : String} (h : k ∉ l.map Prod.fst) : l.lookup k = none :=
  List.lookup_eq_none_iff.mpr fun p hp => bne_iff_ne.mpr fun e => h (List.mem_map.mpr ⟨p, hp, e.symm⟩)

end Ucfg
