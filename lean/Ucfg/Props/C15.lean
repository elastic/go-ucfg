import Ucfg.Lemmas.ForestBuild
/-!
  C15 — Path, Parent, FlattenedKeys and diff describe the actual structure.

  Stated on the identity-level model (Model/Forest.lean), where every node stores its context like the Go values do.
  Along nodes that store their container and name, `context.path` is the actual position (`storedPath_is_position`).  The
  primitives that place or move nodes - fields.append, fields.delAt (D19, DESIGN.md section 7), SetValue, the deep copy,
  Set* through a whole path - keep "every node stores the place it is at", each by its own theorem below.  CompareConfigs
  partitions the two key sets (`compare_*`).
  Over histories the statement is the invariant `WP h` (Lemmas/ForestPlaced.lean): every entry of a node's dictionary stores
  this node and its key, every list element this node and its index.  It holds of the empty heap and is `Stable`
  (Lemmas/ForestStable.lean), so NewFrom, Merge and Set* keep it, and so does every history of them
  (`history_keeps_positions`); under it `Path()` of a node reached from a root along entries is the keys and indices that led
  to it (`wp_path_is_position`).  Remove keeps it as single steps (`remove_name_keeps_positions`,
  `remove_index_keeps_positions` for lists whose nodes are listed once, `remove_path_keeps_positions`).  Outside: SetChild of
  a config that already has a parent breaks it (known finding D20, `attach_attached_child_keeps_old_context`).
  Not proved: that every public operation is a composition of these primitives (that is the reading of merge.go / path.go the
  model's header records, checked on histories through the fingerprint hook).
-/
namespace Ucfg.C15
open Ucfg.Forest

/-- Path(): for a root without a name and a chain of nodes each storing its container and a non-empty name, the stored
path of the last node is the list of names leading to it -/
theorem storedPath_is_position (h : Heap) (root : Id) (links : List (String × Id)) (rb : Body)
    (hroot : h[root]? = some ⟨none, "", rb⟩) (hch : Chain h root links) (fuel : Nat) (hf : links.length < fuel) :
    storedPath fuel h ((links.getLast?.map (·.2)).getD root) = links.map (·.1) := by
  have hup : ∀ m, 1 ≤ m → storedPath m h root = [] := by
    intro m hm
    cases m with
    | zero => cases hm
    | succ m' => simp only [storedPath, hroot]; rfl
  simpa using storedPath_chain h links root [] 1 hup hch fuel (by rw [Nat.add_comm]; exact hf)

/-- non-vacuity: a two-level tree -/
example : storedPath 5 [⟨none, "", .sub [("a", 1)] []⟩, ⟨some 0, "a", .sub [] [2]⟩, ⟨some 1, "0", .prim "int" "7"⟩] 2 = ["a", "0"] := by
  decide +kernel

/-- fields.append (append / prepend / replace / "longer list" merges): the copies are stored behind the existing
elements, each with its own index as name and the list's node as parent -/
theorem append_assigns_indices (fuel : Nat) (src : List Id) (h h' : Heap) (to : Id) (p : Option Id) (f : String)
    (d : List (String × Id)) (a : List Id)
    (hg : getSub h to = some (p, f, d, a)) (he : appendCpy fuel h to src = some h') :
    ∃ new, getSub h' to = some (p, f, d, a ++ new) ∧ new.length = src.length ∧ IndexedFrom h' to a.length new := by
  obtain ⟨_, new, h1, h2, h3, _⟩ := appendCpy_spec fuel src h h' to hg he
  exact ⟨new, h1, h2, h3⟩

/-- fields.delAt: after removing element `i`, every remaining element stores the index it has afterwards (and still the
list's node as parent) -/
theorem delAt_renumbers (h : Heap) (to : Id) (i : Nat) (p : Option Id) (f : String) (d : List (String × Id)) (a : List Id)
    (hg : getSub h to = some (p, f, d, a)) (hi : i < a.length) (hnd : a.Nodup) (hlt : ∀ c ∈ a, c < h.length)
    (hto : to ∉ a) (hidx : IndexedFrom h to 0 a) :
    getSub (delAt h to i) to = some (p, f, d, a.eraseIdx i) ∧ IndexedFrom (delAt h to i) to 0 (a.eraseIdx i) := by
  have hnode := getSub_node hg
  have hdel := delAt_of_lt hg hi
  have hnd' : (a.eraseIdx i).Nodup := List.Nodup.eraseIdx i hnd
  have hsubmem : ∀ c, c ∈ (a.eraseIdx i).drop i → c ∈ a := fun c hc =>
    List.mem_of_mem_eraseIdx (List.mem_of_mem_drop hc)
  have htod : to ∉ (a.eraseIdx i).drop i := fun hc => hto (hsubmem _ hc)
  constructor
  · rw [hdel]
    apply getSub_of_node
    rw [renumber_other htod]
    exact setBody_same hnode
  · refine indexedFrom_zero.mpr fun j c hj => ?_
    have hc_a : c ∈ a := List.mem_of_mem_eraseIdx (List.mem_of_getElem? hj)
    have hc_to : c ≠ to := fun e => hto (e ▸ hc_a)
    have hjlt : j < (a.eraseIdx i).length := lt_of_getElem?_some hj
    rw [hdel]
    by_cases hji : j < i
    · -- in front of the removed element: untouched
      have hnotin : c ∉ (a.eraseIdx i).drop i := by
        intro hc
        obtain ⟨k, hk⟩ := List.getElem?_of_mem hc
        rw [List.getElem?_drop] at hk
        have := (List.getElem?_inj hjlt hnd').mp (hj.trans hk.symm)
        exact Nat.not_le.mpr hji (this ▸ Nat.le_add_right i k)
      rw [renumber_other hnotin, setBody_other hc_to]
      rw [List.getElem?_eraseIdx, if_pos hji] at hj
      exact indexedFrom_zero.mp hidx j c hj
    · -- behind it: renumbered
      have hji' : i ≤ j := Nat.le_of_not_lt hji
      have hk : ((a.eraseIdx i).drop i)[j - i]? = some c := by
        rw [List.getElem?_drop, Nat.add_sub_cancel' hji']; exact hj
      have hndd : ((a.eraseIdx i).drop i).Nodup := List.Nodup.sublist (List.drop_sublist _ _) hnd'
      rw [List.getElem?_eraseIdx, if_neg hji] at hj
      obtain ⟨b, hb⟩ := hidx (j + 1) c hj
      have := renumber_at _ (setBody h to (.sub d (a.eraseIdx i))) i hndd (j - i) c _ hk
        (by rw [setBody_other hc_to]; exact hb)
      rw [Nat.add_sub_cancel' hji'] at this
      exact ⟨b, this⟩

/-- non-vacuity and the defect itself: removing the first of three elements -/
example :
    let h : Heap := [⟨none, "", .sub [] [1, 2, 3]⟩, ⟨some 0, "0", .prim "int" "1"⟩, ⟨some 0, "1", .prim "int" "2"⟩, ⟨some 0, "2", .prim "int" "3"⟩]
    (delAt h 0 0)[2]? = some ⟨some 0, "0", .prim "int" "2"⟩ ∧ (delAt h 0 0)[3]? = some ⟨some 0, "1", .prim "int" "3"⟩ := by
  decide +kernel

/-- namedField.SetValue: the stored value carries the node it is stored in and the name it is stored under -/
theorem setNamed_stores_context (h : Heap) (to : Id) (name kind val : String) (p : Option Id) (f : String)
    (d : List (String × Id)) (a : List Id) (hg : getSub h to = some (p, f, d, a)) :
    (setNamedPrim h to name kind val)[h.length]? = some ⟨some to, name, .prim kind val⟩ ∧
    getSub (setNamedPrim h to name kind val) to = some (p, f, dictSet d name h.length, a) := by
  have hto := getSub_lt hg
  have hne : h.length ≠ to := Nat.ne_of_gt hto
  unfold setNamedPrim
  rw [hg]
  constructor
  · rw [setBody_other hne]; exact List.getElem?_concat_length
  · exact getSub_of_node (setBody_same (getSub_node_append hg _))

/-- a deep copy carries the context it was made for -/
theorem copy_has_context (n : Nat) (h h' : Heap) (id id' : Id) (p : Option Id) (f : String)
    (he : cpy n h id p f = some (h', id')) : ∃ b, h'[id']? = some ⟨p, f, b⟩ :=
  (cpy_appends he).2.2

theorem mem_dedup (l : List String) (k : String) : k ∈ dedup l ↔ k ∈ l := by
  induction l with
  | nil => simp [dedup]
  | cons x r ih =>
    simp only [dedup]
    by_cases hx : r.contains x = true
    · rw [if_pos hx, ih]
      have hxr : x ∈ r := by simpa using hx
      constructor
      · intro h; exact List.mem_cons_of_mem _ h
      · intro h
        rcases List.mem_cons.mp h with rfl | h
        · exact hxr
        · exact h
    · rw [if_neg hx]
      simp [ih]

theorem compare_keep (old new : List String) (k : String) : k ∈ (compareKeys old new).keep ↔ k ∈ old ∧ k ∈ new := by
  simp [compareKeys, mem_dedup]

theorem compare_add (old new : List String) (k : String) : k ∈ (compareKeys old new).add ↔ k ∈ new ∧ k ∉ old := by
  simp [compareKeys, mem_dedup]

theorem compare_remove (old new : List String) (k : String) : k ∈ (compareKeys old new).remove ↔ k ∈ old ∧ k ∉ new := by
  simp [compareKeys, mem_dedup]

/-- CompareConfigs: every setting of either config is in one of the three classes -/
theorem compare_exhaustive (old new : List String) (k : String) (hk : k ∈ old ∨ k ∈ new) :
    k ∈ (compareKeys old new).keep ∨ k ∈ (compareKeys old new).add ∨ k ∈ (compareKeys old new).remove := by
  rw [compare_keep, compare_add, compare_remove]
  by_cases ho : k ∈ old <;> by_cases hn : k ∈ new <;> simp_all

/-- ... and in only one -/
theorem compare_disjoint (old new : List String) (k : String) :
    ¬ (k ∈ (compareKeys old new).keep ∧ k ∈ (compareKeys old new).add) ∧
    ¬ (k ∈ (compareKeys old new).keep ∧ k ∈ (compareKeys old new).remove) ∧
    ¬ (k ∈ (compareKeys old new).add ∧ k ∈ (compareKeys old new).remove) := by
  rw [compare_keep, compare_add, compare_remove]
  refine ⟨?_, ?_, ?_⟩ <;> intro ⟨h1, h2⟩ <;> simp_all

/-- two configs with the same settings: nothing added, nothing removed -/
theorem compare_equal_sets_unchanged (old new : List String) (h : ∀ k, k ∈ old ↔ k ∈ new) :
    (compareKeys old new).hasChanged = false := by
  have ha : (compareKeys old new).add = [] := by
    apply List.eq_nil_iff_forall_not_mem.mpr
    intro k hk; rw [compare_add] at hk; exact hk.2 ((h k).mpr hk.1)
  have hr : (compareKeys old new).remove = [] := by
    apply List.eq_nil_iff_forall_not_mem.mpr
    intro k hk; rw [compare_remove] at hk; exact hk.2 ((h k).mp hk.1)
  simp [Diff.hasChanged, ha, hr]

/-- SetChild: a config without a parent that is attached gets the place it is attached at as its context -/
theorem attach_fresh_child_gets_context (h : Heap) (child to : Id) (f : String) (n : Node)
    (hn : h[child]? = some n) (hp : n.parent = none) :
    (attachCtx h child to f)[child]? = some { n with parent := some to, field := f } := by
  unfold attachCtx
  rw [hn]
  simp only [hp, Option.isNone_none, if_true]
  rw [List.getElem?_set_self (lt_of_getElem?_some hn)]

/-- known finding D20, as the model has it: a config that already has a parent is stored as it is - it keeps the name
and parent of its first position (cfgSub.SetContext's else-branch is lost with its value receiver) -/
theorem attach_attached_child_keeps_old_context (h : Heap) (child to q : Id) (f : String) (n : Node)
    (hn : h[child]? = some n) (hp : n.parent = some q) : attachCtx h child to f = h := by
  unfold attachCtx
  rw [hn]
  simp [hp]

/-- fields.setAt pads with nil nodes that carry their index -/
theorem padTo_spec : ∀ (n : Nat) (h : Heap) (to : Id) (idx : Nat) (p : Option Id) (f : String)
    (d : List (String × Id)) (a : List Id),
    getSub h to = some (p, f, d, a) → IndexedFrom h to 0 a → to ∉ a → (∀ c ∈ a, c < h.length) →
    idx ≤ a.length + n →
    ∃ pad, getSub (padTo n h to idx) to = some (p, f, d, a ++ pad) ∧ (a ++ pad).length = max a.length idx ∧
      IndexedFrom (padTo n h to idx) to 0 (a ++ pad) := by
  intro n h to idx p f d a hg hidx _ _ hle
  obtain ⟨pad, hgp, hlo, hhi, hnew⟩ := padTo_getSub n h to idx hg
  refine ⟨pad, hgp, Nat.le_antisymm hhi (Nat.max_le.mpr ⟨by simp, hlo hle⟩), indexedFrom_zero.mpr fun j c hj => ?_⟩
  by_cases hja : j < a.length
  · -- an element that was there: padding changes no stored parent or name
    rw [List.getElem?_append_left hja] at hj
    obtain ⟨b, hb⟩ := indexedFrom_zero.mp hidx j c hj
    exact (padTo_upd n h to idx).sameCtx.2 c _ hb
  · have hge := Nat.le_of_not_lt hja
    rw [List.getElem?_append_right hge] at hj
    have := hnew (j - a.length) c hj
    rw [Nat.add_sub_cancel' hge] at this
    exact this

/-- a Set* call that succeeds: below the container the walk stopped at, the missing objects and the value are a chain of
nodes each storing the node above as its parent and its own segment as its name -/
theorem set_builds_chain (h h' : Heap) (root : Id) (segs : List Seg) (k v : String)
    (hs : setPathH h root segs (.prim k v) = .ok h') (hnames : ∀ s ∈ segs, s.str ≠ "") (hne : segs ≠ []) :
    ∃ (to : Id) (rest : List Seg) (links : List (String × Id)), walkSet h root segs = .stop to rest ∧
      links.map (·.1) = rest.map Seg.str ∧ Chain h' to links ∧
      ∃ nm leaf p, links.getLast? = some (nm, leaf) ∧ h'[leaf]? = some ⟨some p, nm, .prim k v⟩ := by
  obtain ⟨to, rest, q, hw, hg, rfl⟩ := setPathH_ok hs
  have hrest : rest ≠ [] ∧ ∀ s ∈ rest, s ∈ segs := walkSet_rest hne hw
  obtain ⟨links, hm, hch, hl⟩ := setChain_chain k v rest h to (getSub_lt hg) hrest.1
    (fun s hs => hnames s (hrest.2 s hs))
  exact ⟨to, rest, links, hw, hm, hch, hl⟩

/-- ... and every node that existed keeps its stored parent and name: a write moves nothing -/
theorem set_keeps_contexts (h h' : Heap) (root : Id) (segs : List Seg) (k v : String)
    (hs : setPathH h root segs (.prim k v) = .ok h') : SameCtx h h' := by
  obtain ⟨to, rest, _, _, _, rfl⟩ := setPathH_ok hs
  exact setChain_sameCtx k v rest h to

/-- written below a root: Path() of the new value is the address that was built -/
theorem set_at_root_path (h : Heap) (root : Id) (rb : Body) (rest : List Seg) (k v : String)
    (hroot : h[root]? = some ⟨none, "", rb⟩) (hne : rest ≠ []) (hnames : ∀ s ∈ rest, s.str ≠ "") :
    ∃ leaf, (∃ p nm, (setChain h root rest (.prim k v))[leaf]? = some ⟨some p, nm, .prim k v⟩) ∧
      storedPath (rest.length + 1) (setChain h root rest (.prim k v)) leaf = rest.map Seg.str := by
  have hlt : root < h.length := lt_of_getElem?_some hroot
  obtain ⟨links, hm, hch, nm, leaf, p, hlast, hl⟩ := setChain_chain k v rest h root hlt hne hnames
  obtain ⟨b, hb⟩ := (setChain_sameCtx k v rest h root).2 root _ hroot
  have hlen : links.length = rest.length := by
    have := congrArg List.length hm
    simpa using this
  have := storedPath_is_position (setChain h root rest (.prim k v)) root links b hb hch (rest.length + 1) (hlen ▸ Nat.lt_succ_self _)
  rw [hlast] at this
  simp only [Option.map_some, Option.getD_some] at this
  exact ⟨leaf, ⟨p, nm, hl⟩, by rw [this, hm]⟩

/-- non-vacuity: `a.b.0 = 7` written into an empty root builds the two objects and pads nothing -/
example : setPathH [⟨none, "", .sub [] []⟩] 0 [.name "a", .name "b", .idx 0] (.prim "int" "7") =
    .ok [⟨none, "", .sub [("a", 1)] []⟩, ⟨some 0, "a", .sub [("b", 2)] []⟩, ⟨some 1, "b", .sub [] [3]⟩,
         ⟨some 2, "0", .prim "int" "7"⟩] := by decide +kernel

example : storedPath 4 [⟨none, "", .sub [("a", 1)] []⟩, ⟨some 0, "a", .sub [("b", 2)] []⟩, ⟨some 1, "b", .sub [] [3]⟩,
         ⟨some 2, "0", .prim "int" "7"⟩] 3 = ["a", "b", "0"] := by decide +kernel

/-- the empty heap stores all positions correctly ... -/
theorem wp_empty : WP [] := by intro a nd hn; simp at hn

/-- ... and so does a heap holding one empty root -/
theorem wp_new_root : WP [⟨none, "", .sub [] []⟩] :=
  wp_append_leaf (h := []) wp_empty rfl

/-- Merge, as a whole and under every list policy, keeps every stored position right -/
theorem merge_keeps_positions (n cf : Nat) (pol : ArrPol) (h h' : Heap) (to frm : Id) (w : WP h)
    (he : mergeH n cf pol h to frm = some h') : WP h' :=
  (merge_stable wp_stable n).mh w trivial he

/-- Set* along a whole path keeps every stored position right -/
theorem set_keeps_positions (h h' : Heap) (root : Id) (segs : List Seg) (k v : String) (w : WP h)
    (hs : setPathH h root segs (.prim k v) = .ok h') : WP h' :=
  setPathH_stable wp_stable (fun _ _ _ => trivial) w hs

/-- Merge(value) keeps every stored position right: the invariant survives the building of the value and the merge alike -/
theorem mergeSrc_keeps_positions (n cf : Nat) (pol : ArrPol) (h h' : Heap) (to : Id) (src : Src) (w : WP h)
    (he : mergeSrcH n cf pol h to src = some h') : WP h' :=
  mergeSrcH_stable wp_stable w trivial he

/-- NewFrom(value) keeps every stored position right -/
theorem newFrom_keeps_positions (n cf : Nat) (pol : ArrPol) (h h' : Heap) (src : Src) (root : Id) (w : WP h)
    (he : newFromH n cf pol h src = some (h', root)) : WP h' :=
  newFromH_stable wp_stable w he

/-- the operations of a history: NewFrom and Merge of values (plain data with configs embedded anywhere), merges between
any two nodes, primitive writes along any path -/
inductive HOp where
  | new (pol : ArrPol) (src : Src)
  | mergeVal (pol : ArrPol) (to : Id) (src : Src)
  | merge (pol : ArrPol) (to frm : Id)
  | set (root : Id) (segs : List Seg) (kind val : String)

/-- run a history; an operation the model does not describe (`none` / `unmodelled`) or that Go refuses leaves the heap -/
def runOps (n cf : Nat) : Heap → List HOp → Heap
  | h, [] => h
  | h, .new pol src :: r =>
    (match newFromH n cf pol h src with
     | some (h1, _) => runOps n cf h1 r
     | none => runOps n cf h r)
  | h, .mergeVal pol to src :: r =>
    (match mergeSrcH n cf pol h to src with
     | some h1 => runOps n cf h1 r
     | none => runOps n cf h r)
  | h, .merge pol to frm :: r =>
    (match mergeH n cf pol h to frm with
     | some h1 => runOps n cf h1 r
     | none => runOps n cf h r)
  | h, .set root segs k v :: r =>
    (match setPathH h root segs (.prim k v) with
     | .ok h1 => runOps n cf h1 r
     | _ => runOps n cf h r)

/-- after any history of NewFrom, Merge and Set* calls - starting from nothing (`wp_empty`) - every node stores the
position it is at -/
theorem history_keeps_positions (n cf : Nat) (ops : List HOp) : ∀ h, WP h → WP (runOps n cf h ops) := by
  induction ops with
  | nil => intro h w; exact w
  | cons op r ih =>
    intro h w
    cases op with
    | new pol src =>
      simp only [runOps]
      cases hm : newFromH n cf pol h src with
      | none => exact ih h w
      | some r1 => obtain ⟨h1, root⟩ := r1; exact ih h1 (newFrom_keeps_positions n cf pol h h1 src root w hm)
    | mergeVal pol to src =>
      simp only [runOps]
      cases hm : mergeSrcH n cf pol h to src with
      | none => exact ih h w
      | some h1 => exact ih h1 (mergeSrc_keeps_positions n cf pol h h1 to src w hm)
    | merge pol to frm =>
      simp only [runOps]
      cases hm : mergeH n cf pol h to frm with
      | none => exact ih h w
      | some h1 => exact ih h1 (merge_keeps_positions n cf pol h h1 to frm w hm)
    | set root segs k v =>
      simp only [runOps]
      cases hs : setPathH h root segs (.prim k v) with
      | ok h1 => exact ih h1 (set_keeps_positions h h1 root segs k v w hs)
      | err => exact ih h w
      | unmodelled => exact ih h w

/-- `links` leads from `up` down through entries that are actually stored: each node is listed in the one above under
the name given (a dictionary key, or the index of a list element) -/
def Descends (h : Heap) : Id → List (String × Id) → Prop
  | _, [] => True
  | up, (name, id) :: r =>
    (∃ p f d a, getSub h up = some (p, f, d, a) ∧ ((name, id) ∈ d ∨ ∃ i, a[i]? = some id ∧ name = idxName i)) ∧
    Descends h id r

theorem wp_chain {h : Heap} (w : WP h) : ∀ (links : List (String × Id)) (up : Id),
    Descends h up links → (∀ l ∈ links, l.1 ≠ "") → Chain h up links := by
  intro links
  induction links with
  | nil => intro up _ _; trivial
  | cons l r ih =>
    intro up hd hne
    obtain ⟨name, id⟩ := l
    obtain ⟨⟨p, f, d, a, hg, hin⟩, hrest⟩ := hd
    have pl := placed_of_getSub w hg
    refine ⟨?_, hne _ (List.mem_cons_self ..), ih id hrest (fun l hl => hne l (List.mem_cons_of_mem _ hl))⟩
    rcases hin with hin | ⟨i, hi, rfl⟩
    · exact pl.1 _ hin
    · exact pl.2 i id hi

/-- under the invariant, Path() of a node reached from a root along stored entries is exactly the keys and indices that
led to it -/
theorem wp_path_is_position {h : Heap} (w : WP h) (root : Id) (rb : Body) (links : List (String × Id))
    (hroot : h[root]? = some ⟨none, "", rb⟩) (hd : Descends h root links) (hne : ∀ l ∈ links, l.1 ≠ "")
    (fuel : Nat) (hf : links.length < fuel) :
    storedPath fuel h ((links.getLast?.map (·.2)).getD root) = links.map (·.1) :=
  storedPath_is_position h root links rb hroot (wp_chain w links root hd hne) fuel hf

/-- non-vacuity: two roots, `{a: {x: 1}}` and `{a: {y: 2}, l: [3]}`; the heap is well placed, stays so under the merge, and
the merged-in `l.0` reports its path -/
def exH : Heap :=
  [⟨none, "", .sub [("a", 1)] []⟩, ⟨some 0, "a", .sub [("x", 2)] []⟩, ⟨some 1, "x", .prim "int" "1"⟩,
   ⟨none, "", .sub [("a", 4), ("l", 6)] []⟩, ⟨some 3, "a", .sub [("y", 5)] []⟩, ⟨some 4, "y", .prim "int" "2"⟩,
   ⟨some 3, "l", .sub [] [7]⟩, ⟨some 6, "0", .prim "int" "3"⟩]

example : (mergeH 20 20 .merge exH 0 3).map (fun h' => storedPath 5 h' 10) = some ["l", "0"] := by decide +kernel

/-- the invariant as a check that can be run -/
def storesB (h : Heap) (a : Id) (name : String) (c : Id) : Bool :=
  match h[c]? with
  | some nd => nd.parent == some a && nd.field == name
  | none => false

def placedB (h : Heap) (a : Id) : Body → Bool
  | .prim .. => true
  | .sub d arr => d.all (fun kc => storesB h a kc.1 kc.2) && arr.zipIdx.all (fun ci => storesB h a (idxName ci.2) ci.1)

def wpB (h : Heap) : Bool := h.zipIdx.all (fun na => placedB h na.2 na.1.body)

theorem storesB_sound {h : Heap} {a : Id} {name : String} {c : Id} (hs : storesB h a name c = true) :
    ∃ b, h[c]? = some (⟨some a, name, b⟩ : Node) := by
  unfold storesB at hs
  cases hn : h[c]? with
  | none => rw [hn] at hs; cases hs
  | some nd =>
    rw [hn] at hs
    simp only [Bool.and_eq_true, beq_iff_eq] at hs
    obtain ⟨np, nf, nb⟩ := nd
    obtain ⟨rfl, rfl⟩ := hs
    exact ⟨nb, rfl⟩

theorem wpB_sound {h : Heap} (hb : wpB h = true) : WP h := by
  intro a nd hn
  unfold wpB at hb
  rw [List.all_eq_true] at hb
  have := hb (nd, a) (List.mem_zipIdx_iff_getElem?.mpr hn)
  cases hbody : nd.body with
  | prim k v => trivial
  | sub d arr =>
    rw [hbody] at this
    simp only [placedB, Bool.and_eq_true, List.all_eq_true] at this
    refine ⟨fun kc hkc => storesB_sound (this.1 kc hkc), ?_⟩
    intro i c hc
    exact storesB_sound (this.2 (c, i) (List.mem_zipIdx_iff_getElem?.mpr hc))

/-- the two-root heap is well placed; so is what the merge makes of it (by the theorem, and by the check) -/
example : WP exH := wpB_sound (by decide +kernel)
example : (mergeH 20 20 .merge exH 0 3).map wpB = some true := by decide +kernel

/-- Remove of a named setting keeps every stored position right -/
theorem remove_name_keeps_positions (h : Heap) (to : Id) (name : String) (w : WP h) : WP (dictDel h to name) := by
  unfold dictDel
  split
  · exact w
  · rename_i p f d a hg
    -- the entries that stay are placed as they were
    have pl := placed_of_getSub w hg
    exact wp_setBody w ⟨fun kc hkc => pl.1 kc (List.mem_filter.mp hkc).1, pl.2⟩

/-- removing a list element: the elements behind it move down and are renumbered.  The list's nodes have to be listed
once: not also as named settings of the same node, and the node is not its own element (both hold in every heap a
program can build without attaching a config twice). -/
theorem remove_index_keeps_positions (h : Heap) (to : Id) (i : Nat) (w : WP h)
    (hdisj : ∀ p f d a, getSub h to = some (p, f, d, a) → (∀ kc ∈ d, kc.2 ∉ a) ∧ to ∉ a) : WP (delAt h to i) := by
  cases hg : getSub h to with
  | none => rw [delAt_of_not_lt fun p f d a hg' => nomatch hg.symm.trans hg']; exact w
  | some q =>
    obtain ⟨p, f, d, a⟩ := q
    by_cases hi : i < a.length
    · obtain ⟨hdis, hto⟩ := hdisj p f d a hg
      have pl := placed_iff.mp (placed_of_getSub w hg)
      have hidx : IndexedFrom h to 0 a := indexedFrom_zero.mpr fun j c hj => pl _ c (.inr ⟨j, hj, rfl⟩)
      have hlt : ∀ c ∈ a, c < h.length := fun c hc => by
        obtain ⟨k, hk⟩ := List.getElem?_of_mem hc
        obtain ⟨b, hb⟩ := hidx k c hk
        exact lt_of_getElem?_some hb
      obtain ⟨hgs, hidx'⟩ := delAt_renumbers h to i p f d a hg hi (wp_arr_nodup w hg) hlt hto hidx
      have hdel := delAt_of_lt hg hi
      have hcs_a : ∀ c, c ∈ (a.eraseIdx i).drop i → c ∈ a := fun c hc =>
        List.mem_of_mem_eraseIdx (List.mem_of_mem_drop hc)
      -- a node that is no element of the list keeps the context it stores
      have keep : ∀ (c : Id) (nc : Node), h[c]? = some nc → c ∉ a →
          ∃ b', (delAt h to i)[c]? = some (⟨nc.parent, nc.field, b'⟩ : Node) := by
        intro c nc hc hca
        obtain ⟨b1, hb1⟩ := (upd_setBody h to (.sub d (a.eraseIdx i))).sameCtx.2 c nc hc
        exact ⟨b1, by rw [hdel, renumber_other (fun hcs => hca (hcs_a c hcs))]; exact hb1⟩
      intro x nd' hx'
      refine placed_iff.mpr fun k c e => ?_
      by_cases hxt : x = to
      · -- the list's node: its named settings are no elements, its elements are renumbered
        subst hxt
        have hb : nd'.body = .sub d (a.eraseIdx i) := by
          rw [getSub_node hgs] at hx'; rw [← Option.some.inj hx']
        rw [hb] at e
        rcases e with hm | ⟨j, hj, rfl⟩
        · obtain ⟨b, hb⟩ := pl k c (.inl hm)
          exact keep c _ hb (hdis (k, c) hm)
        · exact indexedFrom_zero.mp hidx' j c hj
      · -- any other node has the body it had, and what it lists stores it, not `to`, as its parent: no element of the list
        have hxlt : x < h.length := by
          have := lt_of_getElem?_some hx'
          rw [hdel, renumber_length, setBody_length] at this
          exact this
        obtain ⟨f', hf'⟩ := renumber_field_only ((a.eraseIdx i).drop i) (setBody h to (.sub d (a.eraseIdx i))) i x h[x]
          (by rw [setBody_other hxt]; exact List.getElem?_eq_getElem hxlt)
        rw [hdel, hf'] at hx'
        rw [← Option.some.inj hx'] at e
        obtain ⟨b, hb⟩ := placed_iff.mp (w x h[x] (List.getElem?_eq_getElem hxlt)) k c e
        refine keep c _ hb (fun hca => ?_)
        obtain ⟨j, hj⟩ := List.getElem?_of_mem hca
        obtain ⟨b2, hb2⟩ := hidx j c hj
        rw [hb] at hb2
        simp only [Option.some.injEq, Node.mk.injEq] at hb2
        exact hxt hb2.1
    · rw [delAt_of_not_lt fun _ _ _ _ hg' => by cases hg.symm.trans hg'; exact hi]; exact w

/-- Remove through a whole path (`removePathH`: the walk of cfgPath.Remove, then fields.del / fields.delAt): every stored
position stays right.  `htree`: the nodes of the list an element is removed from are listed once (see
`remove_index_keeps_positions`). -/
theorem remove_path_keeps_positions (h h' : Heap) (root : Id) (segs : List Seg) (w : WP h)
    (htree : ∀ to p f d a, getSub h to = some (p, f, d, a) → (∀ kc ∈ d, kc.2 ∉ a) ∧ to ∉ a)
    (hr : removePathH h root segs = some h') : WP h' := by
  unfold removePathH at hr
  split at hr
  · cases hr
  · rename_i last revInit _
    split at hr
    · cases hr
    · simp only [Option.some.injEq] at hr; subst hr; exact w
    · rename_i cont _
      split at hr
      · simp only [Option.some.injEq] at hr; subst hr; exact w
      · cases last with
        | idx i =>
          simp only [Option.some.injEq] at hr
          subst hr
          exact remove_index_keeps_positions h cont i w (fun p f d a hg => htree cont p f d a hg)
        | name k =>
          simp only [Option.some.injEq] at hr
          subst hr
          exact remove_name_keeps_positions h cont k w

end Ucfg.C15
