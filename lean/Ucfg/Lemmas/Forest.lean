import Ucfg.Model.Forest
import Std.Data.String.ToNat  -- `Nat.repr_injective`, for `idxName_inj`
/-!
  What the instances over the identity-level model share: what the in-place writes leave alone, what a body lists under
  which name (`Entry`), and the deep copy walked through once (`cpy_succ_inv`): it only appends (`cpy_appends` is the form
  to use) and the block it appends lists only later nodes (`cpy_up`, `cpy_fresh`).

  "The heap is the old one with a block behind it" is `Ext h h'`; `Good` and `cpyList_wp` spell it `∃ t, h' = h ++ t`.
  "New nodes list only new nodes" comes in three strengths: `Up base h` (a node behind `base` lists later nodes of `h`),
  `FreshNodes base t` (no node of the block `t` lists a node below `base`: `cpy_fresh` has it from `cpy_up`) and
  `NewFresh h h'` (Lemmas/ForestBuild.lean: the same for the nodes of `h'` behind `h`, from `Up` by `newFresh_of_up`).
-/
namespace Ucfg.Forest

theorem lt_of_getElem?_some {α : Type} {l : List α} {i : Nat} {x : α} (h : l[i]? = some x) : i < l.length :=
  (List.getElem?_eq_some_iff.mp h).1

theorem getElem?_append_cases {α : Type} {h t : List α} {a : Nat} {n : α} (hn : (h ++ t)[a]? = some n) :
    (a < h.length ∧ h[a]? = some n) ∨ (h.length ≤ a ∧ t[a - h.length]? = some n) := by
  by_cases hlt : a < h.length
  · exact .inl ⟨hlt, by rw [← List.getElem?_append_left hlt]; exact hn⟩
  · exact .inr ⟨Nat.le_of_not_lt hlt, by rw [← List.getElem?_append_right (Nat.le_of_not_lt hlt)]; exact hn⟩

/-- what allocation and deep copies do to the heap; every fact about a node of `h` carries over as it is (`Ext.old`) -/
def Ext (h h' : Heap) : Prop := ∃ t, h' = h ++ t

theorem Ext.refl (h : Heap) : Ext h h := ⟨[], by simp⟩
theorem Ext.trans {a b c : Heap} (x : Ext a b) (y : Ext b c) : Ext a c := by
  obtain ⟨t1, rfl⟩ := x; obtain ⟨t2, rfl⟩ := y; exact ⟨t1 ++ t2, by simp⟩
theorem Ext.old {h h' : Heap} (e : Ext h h') {i : Nat} (hi : i < h.length) : h'[i]? = h[i]? := by
  obtain ⟨t, rfl⟩ := e; exact List.getElem?_append_left hi
theorem Ext.len {h h' : Heap} (e : Ext h h') : h.length ≤ h'.length := by
  obtain ⟨t, rfl⟩ := e; simp

theorem setBody_length (h : Heap) (id : Id) (b : Body) : (setBody h id b).length = h.length := by
  unfold setBody; split <;> simp

theorem setBody_other {h : Heap} {id i : Id} {b : Body} (hne : i ≠ id) : (setBody h id b)[i]? = h[i]? := by
  unfold setBody
  split
  · rw [List.getElem?_set_ne (Ne.symm hne)]
  · rfl

theorem setBody_same {h : Heap} {id : Id} {b : Body} {n : Node} (hn : h[id]? = some n) :
    (setBody h id b)[id]? = some { n with body := b } := by
  unfold setBody
  rw [hn]
  exact List.getElem?_set_self (lt_of_getElem?_some hn)

theorem setBody_cases {h : Heap} {to x : Id} {b : Body} {nd : Node} (hx : (setBody h to b)[x]? = some nd) :
    (x ≠ to ∧ h[x]? = some nd) ∨ (x = to ∧ nd.body = b) := by
  by_cases e : x = to
  · subst e
    cases hn : h[x]? with
    | none =>
      have : setBody h x b = h := by unfold setBody; rw [hn]
      rw [this, hn] at hx; cases hx
    | some n0 =>
      rw [setBody_same hn] at hx
      exact .inr ⟨rfl, by rw [← Option.some.inj hx]⟩
  · exact .inl ⟨e, by rw [← setBody_other e]; exact hx⟩

theorem setBody_append_new (h : Heap) (nd : Node) (t : List Node) (b : Body) :
    setBody (h ++ nd :: t) h.length b = h ++ { nd with body := b } :: t := by
  unfold setBody
  simp

theorem setField_length (h : Heap) (id : Id) (f : String) : (setField h id f).length = h.length := by
  unfold setField; split <;> simp

theorem setField_other {h : Heap} {id i : Id} {f : String} (hne : i ≠ id) : (setField h id f)[i]? = h[i]? := by
  unfold setField
  split
  · rw [List.getElem?_set_ne (Ne.symm hne)]
  · rfl

theorem setField_same {h : Heap} {id : Id} {f : String} {n : Node} (hn : h[id]? = some n) :
    (setField h id f)[id]? = some { n with field := f } := by
  unfold setField
  rw [hn]
  exact List.getElem?_set_self (lt_of_getElem?_some hn)

theorem getSub_lt {h : Heap} {id : Id} {r} (hg : getSub h id = some r) : id < h.length := by
  unfold getSub at hg
  cases hn : h[id]? with
  | none => rw [hn] at hg; cases hg
  | some n => exact lt_of_getElem?_some hn

theorem getSub_node {h : Heap} {id : Id} {p f d a} (hg : getSub h id = some (p, f, d, a)) :
    h[id]? = some ⟨p, f, .sub d a⟩ := by
  unfold getSub at hg
  split at hg
  · rename_i p' f' d' a' heq
    obtain ⟨rfl, rfl, rfl, rfl⟩ := hg
    exact heq
  · cases hg

theorem getSub_node_append {h : Heap} {id : Id} {p f d a} (hg : getSub h id = some (p, f, d, a)) (t : List Node) :
    (h ++ t)[id]? = some ⟨p, f, .sub d a⟩ := by
  rw [List.getElem?_append_left (getSub_lt hg)]; exact getSub_node hg

theorem getSub_of_node {h : Heap} {id : Id} {p f d a} (hn : h[id]? = some ⟨p, f, .sub d a⟩) :
    getSub h id = some (p, f, d, a) := by
  unfold getSub; rw [hn]

def Entry : Body → String → Id → Prop
  | .prim .., _, _ => False
  | .sub d a, k, x => (k, x) ∈ d ∨ ∃ i, a[i]? = some x ∧ k = idxName i

theorem mem_children {b : Body} {x : Id} : x ∈ b.children ↔ ∃ k, Entry b k x := by
  cases b with
  | prim kd v => simp [Body.children, Entry]
  | sub d a =>
    simp only [Body.children, Entry, List.mem_append, List.mem_map]
    constructor
    · rintro (⟨⟨k, y⟩, hm, rfl⟩ | hx)
      · exact ⟨k, .inl hm⟩
      · obtain ⟨i, hi⟩ := List.getElem?_of_mem hx
        exact ⟨idxName i, .inr ⟨i, hi, rfl⟩⟩
    · rintro ⟨k, hm | ⟨i, hi, _⟩⟩
      · exact .inl ⟨(k, x), hm, rfl⟩
      · exact .inr (List.mem_of_getElem? hi)

theorem Entry.mem_children {b : Body} {k : String} {x : Id} (e : Entry b k x) : x ∈ b.children :=
  Forest.mem_children.mpr ⟨k, e⟩

theorem entry_dictSet {d : List (String × Id)} {a : List Id} {k k' : String} {c x : Id}
    (e : Entry (.sub (dictSet d k c) a) k' x) : Entry (.sub d a) k' x ∨ (k' = k ∧ x = c) := by
  rcases e with hm | hi
  · unfold dictSet at hm
    split at hm
    · obtain ⟨⟨k0, c0⟩, h0, he⟩ := List.mem_map.mp hm
      by_cases hk : (k0 == k) = true
      · simp only [hk, if_true, Prod.mk.injEq] at he
        exact .inr ⟨by rw [← he.1]; exact beq_iff_eq.mp hk, he.2.symm⟩
      · simp only [hk] at he
        exact .inl (.inl (he ▸ h0))
    · rcases List.mem_append.mp hm with h0 | h0
      · exact .inl (.inl h0)
      · simp only [List.mem_singleton, Prod.mk.injEq] at h0
        exact .inr h0
  · exact .inl (.inr hi)

theorem entry_set {d : List (String × Id)} {a : List Id} {i : Nat} {k' : String} {c x : Id}
    (e : Entry (.sub d (a.set i c)) k' x) : Entry (.sub d a) k' x ∨ (k' = idxName i ∧ x = c) := by
  rcases e with hm | ⟨j, hj, hk⟩
  · exact .inl (.inl hm)
  · rw [List.getElem?_set] at hj
    split at hj
    · rename_i hij
      split at hj
      · exact .inr ⟨hij ▸ hk, (Option.some.inj hj).symm⟩
      · cases hj
    · exact .inl (.inr ⟨j, hj, hk⟩)

theorem entry_push {d : List (String × Id)} {a : List Id} {k' : String} {c x : Id}
    (e : Entry (.sub d (a ++ [c])) k' x) : Entry (.sub d a) k' x ∨ (k' = idxName a.length ∧ x = c) := by
  rcases e with hm | ⟨j, hj, hk⟩
  · exact .inl (.inl hm)
  · rcases getElem?_append_cases hj with ⟨_, hj⟩ | ⟨hge, hj⟩
    · exact .inl (.inr ⟨j, hj, hk⟩)
    · cases hja : j - a.length with
      | zero =>
        rw [hja] at hj
        exact .inr ⟨Nat.le_antisymm (Nat.le_of_sub_eq_zero hja) hge ▸ hk, (Option.some.inj hj).symm⟩
      | succ m => rw [hja] at hj; cases hj

theorem entry_of_dict_only {d : List (String × Id)} {a : List Id} {k : String} {x : Id}
    (e : Entry (.sub d []) k x) : Entry (.sub d a) k x := by
  rcases e with hm | ⟨j, hj, _⟩
  · exact .inl hm
  · simp at hj

theorem entry_of_list_only {d : List (String × Id)} {a : List Id} {k : String} {x : Id}
    (e : Entry (.sub [] a) k x) : Entry (.sub d a) k x := by
  rcases e with hm | hi
  · cases hm
  · exact .inr hi

theorem entry_of_find {d : List (String × Id)} {a : List Id} {k : String} {o : Id}
    (hf : (d.find? (fun x => x.1 == k)).map (·.2) = some o) : Entry (.sub d a) k o := by
  cases hfind : d.find? (fun x => x.1 == k) with
  | none => rw [hfind] at hf; cases hf
  | some e =>
    rw [hfind] at hf
    have hk := List.find?_some hfind
    have ho : e.2 = o := Option.some.inj hf
    exact .inl (by rw [← beq_iff_eq.mp hk, ← ho]; exact List.mem_of_find?_eq_some hfind)

def FreshNodes (base : Nat) (t : List Node) : Prop := ∀ nd ∈ t, ∀ c ∈ nd.body.children, base ≤ c

theorem FreshNodes.append {base : Nat} {t1 t2 : List Node} (h1 : FreshNodes base t1) (h2 : FreshNodes base t2) :
    FreshNodes base (t1 ++ t2) := by
  intro nd hnd c hc
  rcases List.mem_append.mp hnd with h | h
  · exact h1 nd h c hc
  · exact h2 nd h c hc

/-- what the induction over the fuel of `cpy` carries (`cpy_ext`).  It is used at `base = 0` only, where the `FreshNodes`
part says nothing; that the block lists nothing that existed is `cpy_fresh`, which has it from `cpy_up` -/
def Good (f : Heap → Id → Option Id → String → Option (Heap × Id)) (base : Nat) : Prop :=
  ∀ (h : Heap) (c : Id) (p : Option Id) (fl : String) (h' : Heap) (id' : Id),
    base ≤ h.length → f h c p fl = some (h', id') →
    ∃ t, h' = h ++ t ∧ id' = h.length ∧ FreshNodes base t ∧
      (∃ b, h'[id']? = some ⟨p, fl, b⟩)

theorem cpyList_cons_inv {κ : Type} {f : Heap → Id → Option Id → String → Option (Heap × Id)} {me : Nat} {h h2 : Heap}
    {k : κ} {c : Id} {r cs' : List (κ × Id)} (he : cpyList f me h ((k, c) :: r) = some (h2, cs')) :
    ∃ n h1 c' r', h[c]? = some n ∧ f h c (some me) n.field = some (h1, c') ∧ cpyList f me h1 r = some (h2, r') ∧
      cs' = (k, c') :: r' := by
  simp only [cpyList] at he
  cases hn : h[c]? with
  | none => simp [hn] at he
  | some n =>
    simp only [hn] at he
    cases hc : f h c (some me) n.field with
    | none => simp [hc] at he
    | some r1 =>
      simp only [hc] at he
      cases hr : cpyList f me r1.1 r with
      | none => simp [hr] at he
      | some r2 =>
        simp only [hr, Option.some.injEq, Prod.mk.injEq] at he
        exact ⟨n, r1.1, r1.2, r2.2, rfl, hc, by rw [hr, ← he.1], he.2.symm⟩

theorem cpyList_keeps {κ : Type} {f : Heap → Id → Option Id → String → Option (Heap × Id)} {P : Heap → Prop} (me : Nat)
    (hP : ∀ h c p fl h' id', P h → f h c p fl = some (h', id') → P h') :
    ∀ (cs : List (κ × Id)) (h h2 : Heap) (cs' : List (κ × Id)), P h → cpyList f me h cs = some (h2, cs') → P h2 := by
  intro cs
  induction cs with
  | nil =>
    intro h h2 cs' ph he
    simp only [cpyList, Option.some.injEq, Prod.mk.injEq] at he
    exact he.1 ▸ ph
  | cons kc r ih =>
    intro h h2 cs' ph he
    obtain ⟨n, h1, c', r', _, hc, hr, _⟩ := cpyList_cons_inv he
    exact ih h1 h2 r' (hP h kc.2 (some me) n.field h1 c' ph hc) hr

theorem cpyList_shape {κ : Type} (f : Heap → Id → Option Id → String → Option (Heap × Id)) (me : Nat) (hf : Good f 0) :
    ∀ (cs : List (κ × Id)) (h h2 : Heap) (cs' : List (κ × Id)), cpyList f me h cs = some (h2, cs') →
      Ext h h2 ∧ cs'.length = cs.length ∧
      ∀ (i : Nat) (kc kc' : κ × Id), cs[i]? = some kc → cs'[i]? = some kc' →
        kc'.1 = kc.1 ∧ h.length ≤ kc'.2 ∧ kc'.2 < h2.length ∧
        ∀ n : Node, h[kc.2]? = some n → ∃ b, h2[kc'.2]? = some (⟨some me, n.field, b⟩ : Node) := by
  intro cs
  induction cs with
  | nil =>
    intro h h2 cs' he
    obtain ⟨rfl, rfl⟩ := he
    exact ⟨Ext.refl h, rfl, fun i kc kc' hi => by cases hi⟩
  | cons kc r ih =>
    obtain ⟨k, c⟩ := kc
    intro h h2 cs' he
    obtain ⟨n, h1, c', r', hn, hc, hr, rfl⟩ := cpyList_cons_inv he
    obtain ⟨t1, rfl, hid, _, ⟨b1, hb1⟩⟩ := hf h c (some me) n.field h1 c' (Nat.zero_le _) hc
    obtain ⟨⟨t2, rfl⟩, hlen, hrel⟩ := ih (h ++ t1) h2 r' hr
    refine ⟨⟨t1 ++ t2, List.append_assoc h t1 t2⟩, congrArg (· + 1) hlen, fun i kc kc' hi hi' => ?_⟩
    have hc'lt : c' < (h ++ t1).length := lt_of_getElem?_some hb1
    cases i with
    | zero =>
      simp only [List.getElem?_cons_zero, Option.some.injEq] at hi hi'
      subst hi; subst hi'
      refine ⟨rfl, Nat.le_of_eq hid.symm, Nat.lt_of_lt_of_le hc'lt (Ext.len ⟨_, rfl⟩), fun n' hn' => ?_⟩
      rw [hn] at hn'
      obtain rfl := Option.some.inj hn'
      exact ⟨b1, by rw [List.getElem?_append_left hc'lt]; exact hb1⟩
    | succ j =>
      obtain ⟨e1, e2, e3, e4⟩ := hrel j kc kc' hi hi'
      exact ⟨e1, Nat.le_trans (Ext.len ⟨_, rfl⟩) e2, e3, fun n' hn' =>
        e4 n' (by rw [List.getElem?_append_left (lt_of_getElem?_some hn')]; exact hn')⟩

/-- `b`: the body of the copy `me`, in `h2`, of a node of `h` whose body is `src` -/
def CopiedBody (h h2 : Heap) (me : Nat) (src b : Body) : Prop :=
  ∀ k x, Entry b k x → ∃ c, Entry src k c ∧ me < x ∧ x < h2.length ∧
    ∀ n0 : Node, h[c]? = some n0 → ∃ bx, h2[x]? = some (⟨some me, n0.field, bx⟩ : Node)

/-- one level of `cpy`, the only place where it is unfolded: a primitive is copied to one new node; for an object an
empty node is allocated at `h.length`, the copies one level down are made behind it (`h2`; what each of them keeps, all
of them keep), and its body is written last -/
theorem cpy_succ_inv {n : Nat} (hf : Good (cpy n) 0) {h h' : Heap} {id id' : Id} {p : Option Id} {fl : String}
    (he : cpy (n + 1) h id p fl = some (h', id')) :
    id' = h.length ∧
    ((∃ k v, h' = h ++ [⟨p, fl, .prim k v⟩]) ∨
     ∃ (nd : Node) (t : List Node) (b : Body) (h2 : Heap),
       h[id]? = some nd ∧ h2 = h ++ ⟨p, fl, .sub [] []⟩ :: t ∧ h' = setBody h2 h.length b ∧
       (∀ {P : Heap → Prop}, (∀ h c p fl h' id', P h → cpy n h c p fl = some (h', id') → P h') →
         P (h ++ [⟨p, fl, .sub [] []⟩]) → P h2) ∧
       CopiedBody h h2 h.length nd.body b) := by
  simp only [cpy] at he
  cases hn : h[id]? with
  | none => simp [hn] at he
  | some nd =>
    obtain ⟨np, nf, nb⟩ := nd
    cases nb with
    | prim k v =>
      simp only [hn, Option.some.injEq, Prod.mk.injEq] at he
      exact ⟨he.2.symm, .inl ⟨k, v, he.1.symm⟩⟩
    | sub d a =>
      simp only [hn] at he
      cases h1e : cpyList (cpy n) h.length (h ++ [⟨p, fl, .sub [] []⟩]) d with
      | none => simp [h1e] at he
      | some r1 =>
        obtain ⟨h2, d'⟩ := r1
        simp only [h1e] at he
        cases h2e : cpyList (cpy n) h.length h2 (a.map (fun c => ((), c))) with
        | none => simp [h2e] at he
        | some r2 =>
          obtain ⟨h3, a'⟩ := r2
          simp only [h2e, Option.some.injEq, Prod.mk.injEq] at he
          obtain ⟨rfl, rfl⟩ := he
          -- the empty node allocated first gets a name: the heaps below read `h ++ [nw] ++ t1 ++ t2`, and no rewrite or
          -- `simp` looks into the literal
          generalize hnw : (⟨p, fl, .sub [] []⟩ : Node) = nw at *
          obtain ⟨⟨t1, rfl⟩, hl1, hrel1⟩ := cpyList_shape (cpy n) h.length hf d _ _ d' h1e
          obtain ⟨⟨t2, rfl⟩, hl2, hrel2⟩ := cpyList_shape (cpy n) h.length hf _ _ _ a' h2e
          have hh3 : h ++ [nw] ++ t1 ++ t2 = h ++ nw :: (t1 ++ t2) :=
            (List.append_assoc _ t1 t2).trans (List.append_cons h nw (t1 ++ t2)).symm
          have hme : (h ++ [nw] ++ t1 ++ t2)[h.length]? = some nw := by
            rw [hh3, List.getElem?_append_right (Nat.le_refl _), Nat.sub_self]; rfl
          refine ⟨rfl, .inr ⟨_, t1 ++ t2, .sub d' (a'.map (·.2)), _, rfl, rfl, ?_, fun hP p1 => ?_, ?_⟩⟩
          · rw [← hh3]; unfold setBody; rw [hme, ← hnw]
          · exact hh3 ▸ cpyList_keeps h.length hP _ _ _ _ (cpyList_keeps h.length hP _ _ _ _ p1 h1e) h2e
          · rw [← hh3]
            intro k x e
            have hlt1 : h.length < (h ++ [nw]).length := by rw [List.length_append]; exact Nat.lt_succ_self _
            rcases e with hm | ⟨i, hi, rfl⟩
            · -- a named setting of the copy: the copy of the setting of the same name
              obtain ⟨i, hi⟩ := List.getElem?_of_mem hm
              have hil : i < d.length := hl1 ▸ lt_of_getElem?_some hi
              obtain ⟨e1, e2, e3, e4⟩ := hrel1 i d[i] (k, x) (List.getElem?_eq_getElem hil) hi
              refine ⟨d[i].2, .inl (by rw [show k = d[i].1 from e1]; exact List.getElem_mem hil),
                Nat.lt_of_lt_of_le hlt1 e2, Nat.lt_of_lt_of_le e3 (Ext.len ⟨t2, rfl⟩), fun n0 hn0 => ?_⟩
              obtain ⟨b, hb⟩ := e4 n0 (by rw [List.getElem?_append_left (lt_of_getElem?_some hn0)]; exact hn0)
              exact ⟨b, by rw [List.getElem?_append_left e3]; exact hb⟩
            · -- an element of the copy: the copy of the element at the same index
              rw [List.getElem?_map] at hi
              cases hai : a'[i]? with
              | none => rw [hai] at hi; cases hi
              | some kc' =>
                rw [hai] at hi
                obtain rfl : kc'.2 = x := Option.some.inj hi
                have hia : i < a.length := by
                  have := lt_of_getElem?_some hai
                  rw [hl2, List.length_map] at this
                  exact this
                obtain ⟨_, e2, e3, e4⟩ := hrel2 i ((), a[i]) kc'
                  (by rw [List.getElem?_map, List.getElem?_eq_getElem hia]; rfl) hai
                refine ⟨a[i], .inr ⟨i, List.getElem?_eq_getElem hia, rfl⟩,
                  Nat.lt_of_lt_of_le hlt1 (Nat.le_trans (Ext.len ⟨t1, rfl⟩) e2), e3, fun n0 hn0 => ?_⟩
                exact e4 n0 (by
                  rw [List.append_assoc, List.getElem?_append_left (lt_of_getElem?_some hn0)]; exact hn0)

theorem cpy_ext : ∀ n : Nat, Good (cpy n) 0 := by
  intro n
  induction n with
  | zero => intro h c p fl h' id' _ he; cases he
  | succ n ih =>
    intro h id p fl h' id' _ he
    obtain ⟨rfl, ⟨k, v, rfl⟩ | ⟨nd, t, b, _, _, rfl, rfl, _⟩⟩ := cpy_succ_inv ih he
    · exact ⟨[_], rfl, rfl, fun _ _ _ _ => Nat.zero_le _, _, List.getElem?_concat_length⟩
    · rw [setBody_append_new]
      exact ⟨_, rfl, rfl, fun _ _ _ _ => Nat.zero_le _, b, by simp⟩

/-- `cpy_ext` in the form its users take it -/
theorem cpy_appends {n : Nat} {h h' : Heap} {id id' : Id} {p : Option Id} {f : String}
    (he : cpy n h id p f = some (h', id')) :
    Ext h h' ∧ id' = h.length ∧ ∃ b, h'[id']? = some (⟨p, f, b⟩ : Node) :=
  have ⟨t, e, hid, _, hb⟩ := cpy_ext n h id p f h' id' (Nat.zero_le _) he
  ⟨⟨t, e⟩, hid, hb⟩

def Up (base : Nat) (h : Heap) : Prop :=
  ∀ (a : Nat) (nd : Node), base ≤ a → h[a]? = some nd → ∀ x ∈ nd.body.children, a < x ∧ x < h.length

theorem up_append_leaf {base : Nat} {h : Heap} {nd : Node} (u : Up base h) (hk : nd.body.children = []) :
    Up base (h ++ [nd]) := by
  intro a nd' ha hn x hx
  rcases getElem?_append_cases hn with ⟨_, hn⟩ | ⟨_, hn⟩
  · obtain ⟨h1, h2⟩ := u a nd' ha hn x hx
    exact ⟨h1, Nat.lt_of_lt_of_le h2 (Ext.len ⟨_, rfl⟩)⟩
  · rw [List.mem_singleton.mp (List.mem_of_getElem? hn), hk] at hx
    cases hx

theorem up_ext {base : Nat} {h1 : Heap} (t : List Node) (u1 : Up base h1) (u2 : Up h1.length (h1 ++ t)) : Up base (h1 ++ t) := by
  intro a nd ha hn x hx
  rcases getElem?_append_cases hn with ⟨_, hn0⟩ | ⟨hge, _⟩
  · obtain ⟨e1, e2⟩ := u1 a nd ha hn0 x hx
    exact ⟨e1, Nat.lt_of_lt_of_le e2 (Ext.len ⟨_, rfl⟩)⟩
  · exact u2 a nd hge hn x hx

theorem up_weaken {b1 b2 : Nat} {h : Heap} (hb : b1 ≤ b2) (u : Up b1 h) : Up b2 h :=
  fun a nd ha hn x hx => u a nd (Nat.le_trans hb ha) hn x hx

theorem up_setBody {base : Nat} {h : Heap} {me : Id} {b : Body} (u : Up base h)
    (hb : ∀ x ∈ b.children, me < x ∧ x < h.length) : Up base (setBody h me b) := by
  intro a nd ha hn x hx
  rw [setBody_length]
  rcases setBody_cases hn with ⟨_, hn0⟩ | ⟨rfl, hbody⟩
  · exact u a nd ha hn0 x hx
  · exact hb x (hbody ▸ hx)

def CpyUp (f : Heap → Id → Option Id → String → Option (Heap × Id)) : Prop :=
  ∀ (h : Heap) (c : Id) (p : Option Id) (fl : String) (h' : Heap) (id' : Id), f h c p fl = some (h', id') → Up h.length h'

/-- a deep copy is a tree of new nodes: each lists only nodes allocated after it -/
theorem cpy_up : ∀ n : Nat, CpyUp (cpy n) := by
  intro n
  induction n with
  | zero => intro h c p fl h' id' he; cases he
  | succ n ih =>
    intro h id p fl h' id' he
    have u0 : Up h.length h := fun a nd ha hn => absurd (lt_of_getElem?_some hn) (Nat.not_lt.mpr ha)
    obtain ⟨_, ⟨k, v, rfl⟩ | ⟨nd, t, b, _, _, rfl, rfl, keep, hent⟩⟩ := cpy_succ_inv (cpy_ext n) he
    · exact up_append_leaf u0 rfl
    · have step : ∀ h1 c p fl h1' id', Up h.length h1 → cpy n h1 c p fl = some (h1', id') → Up h.length h1' := by
        intro h1 c p fl h1' id' u hc
        obtain ⟨⟨t, rfl⟩, _⟩ := cpy_appends hc
        exact up_ext t u (ih _ _ _ _ _ _ hc)
      exact up_setBody (keep step (up_append_leaf u0 rfl)) fun x hx => by
        obtain ⟨k, e⟩ := mem_children.mp hx
        obtain ⟨_, _, e1, e2, _⟩ := hent k x e
        exact ⟨e1, e2⟩

theorem cpy_fresh {n : Nat} {h h' : Heap} {id id' : Id} {p : Option Id} {f : String}
    (he : cpy n h id p f = some (h', id')) :
    ∃ t, h' = h ++ t ∧ id' = h.length ∧ FreshNodes h.length t ∧ ∃ b, h'[id']? = some (⟨p, f, b⟩ : Node) := by
  obtain ⟨⟨t, rfl⟩, hid, hctx⟩ := cpy_appends he
  refine ⟨t, rfl, hid, fun nd hnd x hx => ?_, hctx⟩
  obtain ⟨j, hj⟩ := List.getElem?_of_mem hnd
  have := (cpy_up n h id p f _ id' he (h.length + j) nd (Nat.le_add_right _ _)
    (by rw [List.getElem?_append_right (Nat.le_add_right _ _), Nat.add_sub_cancel_left]; exact hj) x hx).1
  exact Nat.le_trans (Nat.le_add_right _ j) (Nat.le_of_lt this)

theorem getSub_after_cpy {cf : Nat} {h h1 : Heap} {v c : Id} {p0 : Option Id} {k : String} {to : Id} {p f d a}
    (hc : cpy cf h v p0 k = some (h1, c)) (hg : getSub h to = some (p, f, d, a)) :
    getSub h1 to = some (p, f, d, a) ∧ c = h.length ∧ (∃ b, h1[c]? = some (⟨p0, k, b⟩ : Node)) := by
  obtain ⟨⟨t, rfl⟩, hid, hb⟩ := cpy_appends hc
  exact ⟨getSub_of_node (getSub_node_append hg t), hid, hb⟩

theorem idxName_inj {i j : Nat} (h : idxName i = idxName j) : i = j :=
  Nat.repr_injective h

/-- what fields.append gives the copies it stores behind `off` elements (`appendCpy_spec`, Lemmas/ForestSet.lean) -/
def IndexedFrom (h : Heap) (to : Id) (off : Nat) (new : List Id) : Prop :=
  ∀ j c, new[j]? = some c → ∃ b, h[c]? = some (⟨some to, idxName (off + j), b⟩ : Node)

theorem indexedFrom_zero {h : Heap} {to : Id} {a : List Id} :
    IndexedFrom h to 0 a ↔ ∀ j c, a[j]? = some c → ∃ b, h[c]? = some (⟨some to, idxName j, b⟩ : Node) := by
  unfold IndexedFrom
  simp only [Nat.zero_add]

theorem IndexedFrom.nil (h : Heap) (to : Id) (off : Nat) : IndexedFrom h to off [] :=
  fun j c hj => by cases hj

theorem IndexedFrom.cons {h : Heap} {to : Id} {off : Nat} {c : Id} {cs : List Id}
    (hc : ∃ b, h[c]? = some (⟨some to, idxName off, b⟩ : Node)) (hcs : IndexedFrom h to (off + 1) cs) :
    IndexedFrom h to off (c :: cs) := by
  intro j x hj
  cases j with
  | zero => exact Option.some.inj ((List.getElem?_cons_zero).symm.trans hj) ▸ hc
  | succ j =>
    have := hcs j x ((List.getElem?_cons_succ).symm.trans hj)
    rw [Nat.add_assoc, Nat.add_comm 1 j] at this
    exact this

theorem delAt_of_lt {h : Heap} {to : Id} {i : Nat} {p f d a} (hg : getSub h to = some (p, f, d, a)) (hi : i < a.length) :
    delAt h to i = renumber (setBody h to (.sub d (a.eraseIdx i))) ((a.eraseIdx i).drop i) i := by
  unfold delAt
  rw [hg]
  exact if_pos hi

theorem delAt_of_not_lt {h : Heap} {to : Id} {i : Nat}
    (hi : ∀ p f d a, getSub h to = some (p, f, d, a) → ¬ i < a.length) : delAt h to i = h := by
  unfold delAt
  split
  · rfl
  · exact if_neg (hi _ _ _ _ ‹_›)

theorem renumber_length : ∀ (cs : List Id) (h : Heap) (j : Nat), (renumber h cs j).length = h.length := by
  intro cs
  induction cs with
  | nil => intro h j; rfl
  | cons c r ih => intro h j; simp [renumber, ih, setField_length]

theorem renumber_other {cs : List Id} {h : Heap} {j i : Nat} (hi : i ∉ cs) : (renumber h cs j)[i]? = h[i]? := by
  induction cs generalizing h j with
  | nil => rfl
  | cons c r ih =>
    simp only [List.mem_cons, not_or] at hi
    simp only [renumber]
    rw [ih hi.2, setField_other hi.1]

theorem renumber_at : ∀ (cs : List Id) (h : Heap) (j : Nat), cs.Nodup → ∀ (k : Nat) (c : Id) (nd : Node),
    cs[k]? = some c → h[c]? = some nd → (renumber h cs j)[c]? = some ({ nd with field := idxName (j + k) } : Node) := by
  intro cs
  induction cs with
  | nil => intro _ _ _ _ _ _ hk; cases hk
  | cons c0 r ih =>
    intro h j hnd k c nd hk hc
    simp only [renumber]
    cases k with
    | zero =>
      obtain rfl := Option.some.inj hk
      rw [renumber_other (List.nodup_cons.mp hnd).1, setField_same hc]
      rfl
    | succ k =>
      have hne : c ≠ c0 := fun e => (List.nodup_cons.mp hnd).1 (e ▸ List.mem_of_getElem? hk)
      rw [ih _ (j + 1) (List.nodup_cons.mp hnd).2 k c nd hk (by rw [setField_other hne]; exact hc),
        Nat.add_assoc, Nat.add_comm 1 k]

theorem renumber_field_only : ∀ (cs : List Id) (h : Heap) (j : Nat) (x : Nat) (nd : Node), h[x]? = some nd →
    ∃ f', (renumber h cs j)[x]? = some ({ nd with field := f' } : Node) := by
  intro cs
  induction cs with
  | nil => intro h j x nd hx; exact ⟨nd.field, by simpa [renumber] using hx⟩
  | cons c r ih =>
    intro h j x nd hx
    simp only [renumber]
    by_cases e : x = c
    · subst e
      obtain ⟨f', hf⟩ := ih (setField h x (idxName j)) (j + 1) x _ (setField_same (f := idxName j) hx)
      exact ⟨f', by rw [hf]⟩
    · exact ih _ _ x nd (by rw [setField_other e]; exact hx)

def Chain (h : Heap) : Id → List (String × Id) → Prop
  | _, [] => True
  | up, (name, id) :: r => (∃ b, h[id]? = some (⟨some up, name, b⟩ : Node)) ∧ name ≠ "" ∧ Chain h id r

/-- `C15.storedPath_is_position` with a prefix `pre` and a fuel bound `n` for `up`, so that the induction over the chain
goes through -/
theorem storedPath_chain (h : Heap) : ∀ (links : List (String × Id)) (up : Id) (pre : List String) (n : Nat),
    (∀ m, n ≤ m → storedPath m h up = pre) → Chain h up links → ∀ m, n + links.length ≤ m →
    storedPath m h ((links.getLast?.map (·.2)).getD up) = pre ++ links.map (·.1) := by
  intro links
  induction links with
  | nil => intro up pre n hup _ m hm; simpa using hup m hm
  | cons l r ih =>
    obtain ⟨name, id⟩ := l
    intro up pre n hup hch m hm
    obtain ⟨⟨b, hnode⟩, hne, hrest⟩ := hch
    have hid : ∀ m, n + 1 ≤ m → storedPath m h id = pre ++ [name] := by
      intro m hm
      cases m with
      | zero => cases hm
      | succ m' =>
        have hf : (name == "") = false := by simpa using hne
        simp only [storedPath, hnode, hf, Bool.false_eq_true, if_false]
        rw [hup m' (Nat.le_of_succ_le_succ hm)]
    rw [List.length_cons, Nat.add_comm r.length 1, ← Nat.add_assoc] at hm
    have := ih id (pre ++ [name]) (n + 1) hid hrest m hm
    cases r with
    | nil => simpa using this
    | cons x xs =>
      simp only [List.getLast?_cons_cons, List.map_cons, List.append_assoc, List.singleton_append] at this ⊢
      exact this

end Ucfg.Forest
