import Ucfg.Model.Unpack
import Ucfg.Lemmas.UnpackValid
/-
  C13 — Unpack changes only what the config mentions and nothing when it fails.

  reifyStruct works on a copy and assigns it back on success only; in the model this is the fact
  that `reifyStructT` returns the new field list (`Outcome`), so a failure has no field list to
  assign.  Proved: the frame laws of the field loop.  The before/after comparison on the real
  code (shallow snapshot) is the correspondence check's job.
-/
namespace Ucfg.C13
open Ucfg Outcome

/-- an ignored or unexported field is never touched (and never validated) -/
theorem skipped_field_unchanged (std : Stdlib) (n : Nat) (o : Opts) (g tag vtag : String) (t : Ty)
    (fr : List (String × String × String × Ty)) (x : GoVal) (xr : List GoVal) (cfg : Val) (res : List GoVal)
    (hskip : accessField o g tag vtag = .ok none)
    (h : reifyStructT std (n + 1) o ((g, tag, vtag, t) :: fr) (x :: xr) cfg = .ok res) :
    res.head? = some x := by
  obtain ⟨fio, x', rest, hacc, -, rfl, hx'⟩ := reifyStructT_cons_ok h
  cases hskip.symm.trans hacc
  exact congrArg some hx'

/-- a primitive field the configuration has no setting for keeps its value -/
theorem unmentioned_primitive_unchanged (std : Stdlib) (n : Nat) (fo : FOpts) (k : Kind) (x r : GoVal) (cfg : Val) (name : String)
    (habs : pathGet tcPlain (parsePathOpts name fo.opts) cfg = .ok none)
    (h : getField' std (n + 1) fo (.prim k) x cfg name = .ok r) : r = x :=
  (getField'_absent habs rfl h).1

/-- … and so does a pointer field: it is not allocated for an absent setting -/
theorem unmentioned_pointer_unchanged (std : Stdlib) (n : Nat) (fo : FOpts) (t : Ty) (x r : GoVal) (cfg : Val) (name : String)
    (habs : pathGet tcPlain (parsePathOpts name fo.opts) cfg = .ok none)
    (h : getField' std (n + 1) fo (.ptr t) x cfg name = .ok r) : r = x :=
  (getField'_absent habs rfl h).1

/-- the element loop of reifyDoArray neither adds nor drops slots -/
theorem doArray_length (std : Stdlib) : ∀ (n : Nat) (fo : FOpts) (t : Ty) (start : Nat) (xs : List GoVal) (arr : List Val) (res : List GoVal),
    doArray std n fo t start xs arr = .ok res → res.length = xs.length := by
  intro n
  induction n with
  | zero => intro fo t start xs arr res h; cases h
  | succ n ih =>
    intro fo t start xs arr res h
    cases xs with
    | nil => rw [← ok.inj h]
    | cons x xr =>
      obtain ⟨x', rest, st', vs', rfl, hrest, -⟩ := doArray_cons_ok h
      rw [List.length_cons, ih _ _ _ _ _ _ hrest, List.length_cons]

/-- unpacking a list setting into a nil slice gives a slice with exactly one slot per element -/
theorem fresh_slice_length (std : Stdlib) (n : Nat) (fo : FOpts) (t : Ty) (v : Val) (l : List GoVal)
    (h : sliceMerge std (n + 1) fo t none v = .ok (.slice (some l))) : l.length = (castArr v).length := by
  obtain ⟨xs, hxs, h⟩ := bind_eq_ok h
  cases (finishArray_ok h).1
  simpa using doArray_length std n fo t 0 _ _ l hxs

/-! `Untouched` describes the fields the configuration has nothing for: ignored / unexported ones, and fields of primitive
or pointer type whose name the configuration does not hold. The lifted frame law: after a successful field loop every
such field - at any position, among any other fields - holds exactly what it held. -/

/-- the configuration has no say about this field -/
def Untouched (o : Opts) (cfg : Val) (f : String × String × String × Ty) : Prop :=
  accessField o f.1 f.2.1 f.2.2.1 = .ok none ∨
  ∃ fi, accessField o f.1 f.2.1 f.2.2.1 = .ok (some fi) ∧ fi.tag.squash = false ∧
    ((∃ k, f.2.2.2 = Ty.prim k) ∨ (∃ t, f.2.2.2 = Ty.ptr t)) ∧
    pathGet tcPlain (parsePathOpts fi.name { o with handling := fi.handling }) cfg = .ok none

theorem struct_frame (std : Stdlib) (o : Opts) (cfg : Val) :
    ∀ (fs : List (String × String × String × Ty)) (n : Nat) (xs xs' : List GoVal),
      reifyStructT std n o fs xs cfg = .ok xs' →
      ∀ (i : Nat) (f : String × String × String × Ty) (x : GoVal),
        fs[i]? = some f → xs[i]? = some x → Untouched o cfg f → xs'[i]? = some x := by
  intro fs
  induction fs with
  | nil => intro n xs xs' _ i f x hf; simp at hf
  | cons f0 fr ih =>
    intro n xs xs' h i f x hf hx hu
    obtain ⟨g, tag, vtag, t⟩ := f0
    cases n with
    | zero => cases h
    | succ m =>
      cases xs with
      | nil => cases i <;> cases hx
      | cons x0 xr =>
        obtain ⟨fio, x0', rest, hacc, hrest, rfl, hx0⟩ := reifyStructT_cons_ok h
        cases i with
        | succ j => exact ih m xr rest hrest j f x hf hx hu
        | zero =>
          cases Option.some.inj hf
          cases Option.some.inj hx
          refine congrArg some ?_
          rcases hu with hnone | ⟨fi, hfi, hsq, hty, habs⟩
          · cases hnone.symm.trans hacc
            exact hx0
          · cases hfi.symm.trans hacc
            have hg := hx0 hsq
            cases m with
            | zero => cases hg
            | succ m' =>
              -- `habs` has the options as `{ o with handling := fi.handling }`, the two lemmas as `(fi.fopts o).opts`: the same
              -- by definition
              rcases hty with ⟨k, rfl⟩ | ⟨t', rfl⟩
              · exact unmentioned_primitive_unchanged std m' (fi.fopts o) k _ x0' cfg fi.name habs hg
              · exact unmentioned_pointer_unchanged std m' (fi.fopts o) t' _ x0' cfg fi.name habs hg

/-- at the API: `cfg.Unpack(&target)` leaves every untouched field of the struct passed in as it was -/
theorem unpack_frame (std : Stdlib) (o : Opts) (cfg : Val) (fs : List (String × String × String × Ty))
    (xs : List GoVal) (v : GoVal) (h : unpack std o (.strct fs) (.strct xs) cfg = .ok v) :
    ∃ xs', v = .strct xs' ∧ ∀ (i : Nat) (f : String × String × String × Ty) (x : GoVal),
      fs[i]? = some f → xs[i]? = some x → Untouched o cfg f → xs'[i]? = some x := by
  obtain ⟨xs', hxs, h⟩ := bind_eq_ok h
  exact ⟨xs', (ok.inj h).symm, struct_frame std o cfg fs unpackFuel xs xs' hxs⟩

/-- a failing Unpack returns no struct at all: there is nothing to assign back (reifyStruct works on a copy) -/
theorem failed_unpack_has_no_result (std : Stdlib) (o : Opts) (ty : Ty) (old : GoVal) (cfg : Val) (e : Err)
    (h : unpack std o ty old cfg = .err e) : ∀ v, unpack std o ty old cfg ≠ .ok v := by
  intro v hv; rw [h] at hv; cases hv

/-! `FrameIn o ty old new v`: going from `old` to `new` under the setting `v`, everything the setting has nothing for is
unchanged - at every depth reachable through struct fields, non-nil pointers and fixed-size arrays (slices are rebuilt
according to the list policy and map entries are merged into copies: their frames are the correspondence check's).
One induction over the fuel proves it for `mergeValue`, `reifyStructT`, `getField'` and `doArray` together. -/

mutual
def FrameIn (o : Opts) : Ty → GoVal → GoVal → Val → Prop
  | .strct fs, .strct os, .strct ns, v =>
    match toCfg? v with
    | some cfg => FrameFields o fs os ns cfg
    | none => True
  | .ptr t, .ptr (some ox), .ptr (some nx), v => FrameIn o t ox nx v
  | .array _ t, .array ol, .array nl, v =>
    ∀ (i : Nat) (ox nx : GoVal) (s : Val), ol[i]? = some ox → nl[i]? = some nx → (castArr v)[i]? = some s →
      FrameIn o t ox nx s
  | _, _, _, _ => True
def FrameFields (o : Opts) : List (String × String × String × Ty) → List GoVal → List GoVal → Val → Prop
  | (g, tag, vtag, t) :: fr, ox :: or, nx :: nr, cfg =>
    (match accessField o g tag vtag with
     | .ok none => nx = ox                                   -- ignored / unexported: untouched
     | .ok (some fi) =>
       if fi.tag.squash then True
       else
         match pathGet tcPlain (parsePathOpts fi.name { o with handling := fi.handling }) cfg with
         | .ok (some s) =>
           if s.isNilPrim then (if t.isStrct then FrameIn { o with handling := fi.handling } t ox nx Val.nilV else nx = ox)
           else FrameIn { o with handling := fi.handling } t ox nx s
         | .ok none => if t.isStrct then FrameIn { o with handling := fi.handling } t ox nx Val.nilV else nx = ox
         | .err e => if e.reason = .missing then (if t.isStrct then FrameIn { o with handling := fi.handling } t ox nx Val.nilV else nx = ox) else True
         | _ => True
     | _ => True) ∧ FrameFields o fr or nr cfg
  | _, _, _, _ => True
end

/-- what `getField'` guarantees for one field -/
def GetFrame (o' : Opts) (t : Ty) (ox nx : GoVal) (cfg : Val) (name : String) : Prop :=
  match pathGet tcPlain (parsePathOpts name o') cfg with
  | .ok (some s) =>
    if s.isNilPrim then (if t.isStrct then FrameIn o' t ox nx Val.nilV else nx = ox)
    else FrameIn o' t ox nx s
  | .ok none => if t.isStrct then FrameIn o' t ox nx Val.nilV else nx = ox
  | .err e => if e.reason = .missing then (if t.isStrct then FrameIn o' t ox nx Val.nilV else nx = ox) else True
  | _ => True

theorem frameFields_cons (o : Opts) (g tag vtag : String) (t : Ty) (fr : List (String × String × String × Ty))
    (ox nx : GoVal) (or nr : List GoVal) (cfg : Val) :
    FrameFields o ((g, tag, vtag, t) :: fr) (ox :: or) (nx :: nr) cfg =
    ((match accessField o g tag vtag with
      | .ok none => nx = ox
      | .ok (some fi) => if fi.tag.squash then True else GetFrame { o with handling := fi.handling } t ox nx cfg fi.name
      | _ => True) ∧ FrameFields o fr or nr cfg) := by
  rfl

theorem frameIn_ptr (o : Opts) (t : Ty) (ox nx : GoVal) (v : Val) :
    FrameIn o (.ptr t) (.ptr (some ox)) (.ptr (some nx)) v = FrameIn o t ox nx v := by
  conv => lhs; unfold FrameIn

theorem frameIn_strct (o : Opts) (fs : List (String × String × String × Ty)) (os ns : List GoVal) (v cfg : Val)
    (h : toCfg? v = some cfg) : FrameIn o (.strct fs) (.strct os) (.strct ns) v = FrameFields o fs os ns cfg := by
  conv => lhs; unfold FrameIn
  simp only [h]

theorem frameIn_array (o : Opts) (k : Nat) (t : Ty) (ol nl : List GoVal) (v : Val) :
    FrameIn o (.array k t) (.array ol) (.array nl) v =
    ∀ (i : Nat) (ox nx : GoVal) (s : Val), ol[i]? = some ox → nl[i]? = some nx → (castArr v)[i]? = some s →
      FrameIn o t ox nx s := by
  conv => lhs; unfold FrameIn

/-- the claims of the induction over the fuel, one per function -/
structure FClaims (std : Stdlib) (n : Nat) : Prop where
  merge : ∀ (fo : FOpts) (ty : Ty) (old : GoVal) (v : Val) (r : GoVal),
    mergeValue std n fo ty old v = .ok r → FrameIn fo.opts ty old r v
  strct : ∀ (o : Opts) (fs : List (String × String × String × Ty)) (xs : List GoVal) (cfg : Val) (xs' : List GoVal),
    reifyStructT std n o fs xs cfg = .ok xs' → FrameFields o fs xs xs' cfg
  getf : ∀ (fo : FOpts) (t : Ty) (x : GoVal) (cfg : Val) (name : String) (r : GoVal),
    getField' std n fo t x cfg name = .ok r → GetFrame fo.opts t x r cfg name
  arr : ∀ (fo : FOpts) (t : Ty) (xs : List GoVal) (vs : List Val) (xs' : List GoVal),
    doArray std n fo t 0 xs vs = .ok xs' →
    ∀ (i : Nat) (ox nx : GoVal) (s : Val), xs[i]? = some ox → xs'[i]? = some nx → vs[i]? = some s →
      FrameIn fo.opts t ox nx s

theorem f_arr_step (std : Stdlib) (n : Nat) (IH : FClaims std n) :
    ∀ (fo : FOpts) (t : Ty) (xs : List GoVal) (vs : List Val) (xs' : List GoVal),
    doArray std (n+1) fo t 0 xs vs = .ok xs' →
    ∀ (i : Nat) (ox nx : GoVal) (s : Val), xs[i]? = some ox → xs'[i]? = some nx → vs[i]? = some s →
      FrameIn fo.opts t ox nx s := by
  intro fo t xs vs xs' h i ox nx s hox hnx hs
  cases xs with
  | nil => cases i <;> cases hox
  | cons x xr =>
    obtain ⟨x', rest, st', vr, rfl, hrest, ⟨-, -, hvs⟩ | ⟨v, mx, -, rfl, rfl, hmx, hx'⟩⟩ := doArray_cons_ok h
    · -- no setting is left for an element that is kept
      rw [hvs rfl] at hs; cases i <;> cases hs
    · cases i with
      | succ j => exact IH.arr fo t xr vr rest hrest j ox nx s hox hnx hs
      | zero =>
        cases Option.some.inj hox
        cases Option.some.inj hs
        cases Option.some.inj hnx
        rcases hx' with ⟨rfl, -, -⟩ | rfl
        · -- interface{} slot: no frame claimed
          unfold FrameIn; exact trivial
        · exact IH.merge fo t _ _ _ hmx

theorem f_getf_step (std : Stdlib) (n : Nat) (IH : FClaims std n) :
    ∀ (fo : FOpts) (t : Ty) (x : GoVal) (cfg : Val) (name : String) (r : GoVal),
    getField' std (n+1) fo t x cfg name = .ok r → GetFrame fo.opts t x r cfg name := by
  intro fo t x cfg name r h
  obtain ⟨vo, hvo, hact⟩ := getField'_ok h
  have absent (hn : Val.isNilOpt vo = true) : if t.isStrct then FrameIn fo.opts t x r Val.nilV else r = x := by
    obtain ⟨-, hs, hm⟩ | ⟨-, hs, -, rfl⟩ | ⟨v, _, rfl, hv, -⟩ := hact
    · rw [if_pos hs]; exact IH.merge fo t x _ r hm
    · rw [if_neg (by rw [hs]; exact Bool.false_ne_true)]
    · cases hv.symm.trans hn
  unfold GetFrame
  rcases hvo with hvo | ⟨rfl, e, hvo, hm⟩
  · rw [hvo]
    cases vo with
    | none => exact absent rfl
    | some s =>
      dsimp only
      by_cases hs : s.isNilPrim = true
      · rw [if_pos hs]; exact absent hs
      · rw [if_neg hs]
        obtain ⟨hn, -⟩ | ⟨hn, -⟩ | ⟨_, nx, hv, -, hnx, hr⟩ := hact
        · exact absurd hn hs
        · exact absurd hn hs
        · cases hv
          rcases hr with ⟨rfl, -, -⟩ | rfl
          · unfold FrameIn; exact trivial
          · exact IH.merge fo t x s r hnx
  · rw [hvo]
    dsimp only
    rw [if_pos hm]
    exact absent rfl

theorem f_strct_step (std : Stdlib) (n : Nat) (IH : FClaims std n) :
    ∀ (o : Opts) (fs : List (String × String × String × Ty)) (xs : List GoVal) (cfg : Val) (xs' : List GoVal),
    reifyStructT std (n+1) o fs xs cfg = .ok xs' → FrameFields o fs xs xs' cfg := by
  intro o fs xs cfg xs' h
  cases fs with
  | nil => unfold FrameFields; exact trivial
  | cons f fr =>
    cases xs with
    | nil => unfold FrameFields; exact trivial
    | cons x xr =>
      obtain ⟨g, tag, vtag, t⟩ := f
      obtain ⟨fio, x', rest, hacc, hrest, rfl, hx'⟩ := reifyStructT_cons_ok h
      rw [frameFields_cons, hacc]
      refine ⟨?_, IH.strct o fr xr cfg rest hrest⟩
      cases fio with
      | none => exact hx'
      | some fi =>
        dsimp only
        split
        · exact trivial
        · exact IH.getf (fi.fopts o) t x cfg fi.name x' (hx' (Bool.eq_false_iff.2 ‹_›))

theorem f_merge_step (std : Stdlib) (n : Nat) (IH : FClaims std n) :
    ∀ (fo : FOpts) (ty : Ty) (old : GoVal) (v : Val) (r : GoVal),
    mergeValue std (n+1) fo ty old v = .ok r → FrameIn fo.opts ty old r v := by
  intro fo ty old v r h
  -- by the alternatives of `FrameIn`, in their order: struct, non-nil pointer, fixed-size array, anything else
  unfold FrameIn
  split
  · unfold mergeValue at h; dsimp only at h
    split at h
    · cases h
    · obtain ⟨xs', hxs, h⟩ := bind_eq_ok h
      cases ok.inj h
      simp only [‹toCfg? _ = some _›]
      exact IH.strct fo.opts _ _ _ _ hxs
  · obtain ⟨x', hx', h⟩ := bind_eq_ok h
    cases ok.inj h
    exact IH.merge fo _ _ _ _ hx'
  · unfold mergeValue at h; dsimp only at h
    split at h
    · cases h
    · obtain ⟨xs', hxs, h⟩ := bind_eq_ok h
      cases (finishArray_ok h).1
      exact IH.arr fo _ _ (castArr _) _ hxs
  · exact trivial

theorem fclaims (std : Stdlib) : ∀ n, FClaims std n
  -- at fuel 0 every function returns `.fuel`: the hypothesis is `.fuel = .ok r`
  | 0 => by constructor <;> intros <;> contradiction
  | k + 1 =>
    have ih := fclaims std k
    ⟨f_merge_step std k ih, f_strct_step std k ih, f_getf_step std k ih, f_arr_step std k ih⟩

/-- **C13, recursively.** After a successful Unpack into a struct - of any field types, with any tags, validators,
pre-filled values and configuration - everything the configuration has nothing for holds what it held, at every depth
reachable through struct fields, non-nil pointers and fixed-size arrays: ignored and unexported fields, fields of
primitive / pointer / container type without a setting (or with a null one), and the same inside every nested struct. -/
theorem unpack_frame_rec (std : Stdlib) (o : Opts) (fs : List (String × String × String × Ty)) (xs : List GoVal)
    (cfg : Val) (v : GoVal) (h : unpack std o (.strct fs) (.strct xs) cfg = .ok v) :
    ∃ xs', v = .strct xs' ∧ FrameFields o fs xs xs' cfg := by
  obtain ⟨xs', hxs, h⟩ := bind_eq_ok h
  exact ⟨xs', (ok.inj h).symm, (fclaims std unpackFuel).strct o fs xs cfg xs' hxs⟩

/-- what a struct tag option does, in the vocabulary of util.go -/
def tagEffect (t : TagOpts) : String :=
  if t.squash then "squash" else if t.ignore then "ignore"
  else (Extracted.configHandlingNames[t.handling.code]?).getD "?"

/-- the struct tag options the model understands are exactly the cases of the switch in util.go parseTags, with the same
effect (regenerated from the source on every run: a new or renamed tag option breaks this) -/
theorem tag_options_match_source :
    Extracted.tagOptionWords.all (fun w => tagEffect (parseTags ("f," ++ w.1)).2 == w.2) = true := by decide +kernel

/-! non-vacuity: what the predicate says for a concrete struct - an ignored field and a nested struct with an unmentioned
field, both left as they were by an Unpack that sets the field next to them -/
def exFs : List (String × String × String × Ty) :=
  [("A", "a,ignore", "", .prim (.int 64)), ("S", "s", "", .strct [("X", "x", "", .prim (.int 64)), ("Y", "y", "", .prim .string)])]
def exCfg : Val := .sub [("s", .sub [("x", .prim (.uint 5))] [] true false)] [] true false
example : FrameFields {} exFs [.scalar (.int 1), .strct [.scalar (.int 2), .scalar (.str "keep")]]
    [.scalar (.int 1), .strct [.scalar (.int 5), .scalar (.str "keep")]] exCfg := by
  -- it is the frame of the Unpack that produces the second struct from the first
  obtain ⟨_, h, hf⟩ := unpack_frame_rec default {} exFs _ exCfg _
    (rfl : unpack default {} (.strct exFs) (.strct [.scalar (.int 1), .strct [.scalar (.int 2), .scalar (.str "keep")]]) exCfg =
      .ok (.strct [.scalar (.int 1), .strct [.scalar (.int 5), .scalar (.str "keep")]]))
  cases h
  exact hf

end Ucfg.C13
