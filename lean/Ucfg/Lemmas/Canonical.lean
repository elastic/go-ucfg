import Ucfg.Model.Normalize
import Ucfg.Model.Reify
import Ucfg.Lemmas.DictSorted
import Ucfg.Lemmas.Path
import Ucfg.Lemmas.Outcome
/-
  The canonical generic view of plain Go data: what NewFrom followed by Unpack into interface{} must return.
  `expect` is written on the data alone (positive integers are unsigned, durations and regexps their text, map entries
  sorted by key); the lemmas relate it to normalizeValue and reify.  Two facts about Normalize that they rest on come
  first (`normalizeString_plain`, `setField_new`), and at the end the view is shown blind to a deep copy (`reifyP_cpy`).
-/
namespace Ucfg
open Outcome

/-- sorted insertion into a generic map (the mirror of `dset`) -/
def dataSet : List (String × Data) → String → Data → List (String × Data)
  | [], n, x => [(n, x)]
  | (k, v) :: r, n, x =>
    if n = k then (k, x) :: r
    else if n < k then (n, x) :: (k, v) :: r
    else (k, v) :: dataSet r n x

mutual
def expect : GoData → Data
  | .nil => .nil
  | .bool b => .bool b
  | .int i => if i > 0 then .uint i.toNat else .int i
  | .uint n => .uint n
  | .float f => .float f
  | .str s => .str s
  | .dur t => .str t
  | .regex t => .str t
  | .list l => .arr (expectL l)
  | .map m => .map (expectM [] m)
  | _ => .nil
def expectL : List GoData → List Data
  | [] => []
  | x :: r => expect x :: expectL r
def expectM (acc : List (String × Data)) : List (String × GoData) → List (String × Data)
  | [] => acc
  | (k, v) :: r => expectM (dataSet acc k (expect v)) r
end

mutual
/-- plain data: scalars, non-empty lists, non-empty string-keyed maps whose keys are single path segments, all different -/
def plainData (o : Opts) : GoData → Bool
  | .nil | .bool _ | .int _ | .uint _ | .float _ | .str _ | .dur _ | .regex _ => true
  | .list l => !l.isEmpty && plainL o l
  | .map m => !m.isEmpty && plainM o [] m
  | _ => false
def plainL (o : Opts) : List GoData → Bool
  | [] => true
  | x :: r => plainData o x && plainL o r
def plainM (o : Opts) (seen : List String) : List (String × GoData) → Bool
  | [] => true
  | (k, v) :: r =>
    decide (parsePathOpts k o = [.named k]) && !seen.contains k && plainData o v && plainM o (k :: seen) r
end

theorem normalizeString_plain {o : Opts} (hv : o.varexp = false) (s : String) :
    normalizeString o s = .ok (.prim (.str s)) := by
  rw [normalizeString, hv]
  rfl

theorem reifyD_dset : ∀ (d : Dict) (acc : List (String × Data)) (k : String) (v : Val) (x : Data),
    reifyD d = .ok acc → reifyP v = .ok x → reifyD (dset d k v) = .ok (dataSet acc k x) := by
  intro d
  induction d with
  | nil =>
    intro acc k v x hd hv
    cases hd
    rw [dset, reifyD, hv]
    rfl
  | cons e r ih =>
    intro acc k v x hd hv
    obtain ⟨k', v'⟩ := e
    obtain ⟨x', h1, hd⟩ := bind_eq_ok hd
    obtain ⟨rest, h2, hd⟩ := bind_eq_ok hd
    cases hd
    rw [dset, dataSet]
    by_cases e1 : k = k'
    · rw [if_pos e1, if_pos e1, reifyD, hv, h2]; rfl
    · rw [if_neg e1, if_neg e1]
      by_cases e2 : k < k'
      · rw [if_pos e2, if_pos e2, reifyD, hv, reifyD, h1, h2]; rfl
      · rw [if_neg e2, if_neg e2, reifyD, h1, ih rest k v x h2 hv]; rfl

theorem setField_new (o : Opts) (d : Dict) (a : List Val) (hd ha : Bool) (k : String) (v : Val)
    (hk : parsePathOpts k o = [.named k]) (hnew : dget d k = none) :
    setField o (.sub d a hd ha) k v = .ok (.sub (dset d k v) a true ha) := by
  -- nothing is there under the name: the value is written by `fieldSet`
  rw [setField, hk, pathGet_single (fieldGet_named_sub k d a hd ha), hnew]
  rfl

theorem dataSet_eq_ains (m : List (String × Data)) (k : String) (x : Data) : dataSet m k x = ains m k x := by
  induction m with
  | nil => rfl
  | cons e r ih => simp only [dataSet, ains, ih]

theorem dataSet_ne_nil (m : List (String × Data)) (k : String) (x : Data) : dataSet m k x ≠ [] :=
  dataSet_eq_ains m k x ▸ ains_ne_nil m k x

theorem expectM_ne_nil : ∀ (m : List (String × GoData)) (acc : List (String × Data)), acc ≠ [] → expectM acc m ≠ [] := by
  intro m
  induction m with
  | nil => intro _ h; simpa [expectM] using h
  | cons e r ih =>
    intro acc _
    simp only [expectM]
    exact ih _ (dataSet_ne_nil acc e.1 _)

mutual
theorem norm_expect (o : Opts) (hv : o.varexp = false) : ∀ (x : GoData), plainData o x = true →
    ∃ v, normValue o x = .ok v ∧ reifyP v = .ok (expect x)
  | .nil => fun _ => ⟨_, rfl, rfl⟩
  | .bool _ => fun _ => ⟨_, rfl, rfl⟩
  | .int i => fun _ => ⟨_, rfl, by
    show reifyP (if _ then _ else _) = .ok (if _ then _ else _)
    split <;> rfl⟩
  | .uint _ => fun _ => ⟨_, rfl, rfl⟩
  | .float _ => fun _ => ⟨_, rfl, rfl⟩
  | .str s => fun _ => ⟨_, normalizeString_plain hv s, rfl⟩
  | .dur _ => fun _ => ⟨_, rfl, rfl⟩
  | .regex _ => fun _ => ⟨_, rfl, rfl⟩
  | .list l => by
    intro h
    simp only [plainData, Bool.and_eq_true, Bool.not_eq_true', List.isEmpty_eq_false_iff] at h
    obtain ⟨a, hn, hr⟩ := normL_expect o hv l h.2
    refine ⟨.sub [] a false true, by rw [normValue, hn]; rfl, ?_⟩
    -- a non-empty list normalizes to a non-empty array, which reifies as an array
    cases a with
    | nil =>
      cases l with
      | nil => exact absurd rfl h.1
      | cons x r =>
        obtain ⟨_, _, ha⟩ := bind_eq_ok hn
        obtain ⟨_, _, ha⟩ := bind_eq_ok ha
        cases ha
    | cons y b => rw [reifyP, hr]; rfl
  | .map m => by
    intro h
    simp only [plainData, Bool.and_eq_true, Bool.not_eq_true', List.isEmpty_eq_false_iff] at h
    obtain ⟨d', hd', hn, hr, _, hne⟩ := normM_expect o hv m [] [] [] false h.2 rfl rfl nofun
    refine ⟨.sub d' [] hd' false, by rw [normValue]; exact hn, ?_⟩
    cases d' with
    | nil => exact absurd rfl (hne h.1)
    | cons e r => rw [reifyP, hr]; rfl
  | .strct _ | .cfg _ | .unsupported | .badKeyMap => fun h => by cases h
theorem normL_expect (o : Opts) (hv : o.varexp = false) : ∀ (l : List GoData), plainL o l = true →
    ∃ a, normList o l = .ok a ∧ reifyA a = .ok (expectL l)
  | [] => fun _ => ⟨[], rfl, rfl⟩
  | x :: r => by
    intro h
    simp only [plainL, Bool.and_eq_true] at h
    obtain ⟨v, hn, hr⟩ := norm_expect o hv x h.1
    obtain ⟨a, hna, hra⟩ := normL_expect o hv r h.2
    exact ⟨v :: a, by rw [normList, hn, hna]; rfl, by rw [reifyA, hr, hra]; rfl⟩
/-- the map entries one by one: `seen` are the keys already stored, `d` the dictionary built from them, `acc` its view;
  every key of `d` is in `seen`, so a key that `plainM` finds new is absent from `d` and `setField_new` applies -/
theorem normM_expect (o : Opts) (hv : o.varexp = false) : ∀ (m : List (String × GoData)) (seen : List String) (d : Dict)
    (acc : List (String × Data)) (hd : Bool), plainM o seen m = true → reifyD d = .ok acc → dSorted d = true →
    (∀ k, dget d k ≠ none → k ∈ seen) →
    ∃ d' hd', normMapInto o (.sub d [] hd false) m = .ok (.sub d' [] hd' false) ∧ reifyD d' = .ok (expectM acc m) ∧
      dSorted d' = true ∧ (m ≠ [] → d' ≠ [])
  | [] => fun _ d _ hd _ hr hs _ => ⟨d, hd, rfl, hr, hs, fun h => absurd rfl h⟩
  | (k, x) :: r => by
    intro seen d acc hd h hr hs hseen
    simp only [plainM, Bool.and_eq_true, decide_eq_true_eq, Bool.not_eq_true'] at h
    obtain ⟨⟨⟨hk, hnew⟩, hx⟩, hrest⟩ := h
    obtain ⟨v, hn, hrv⟩ := norm_expect o hv x hx
    have hnone : dget d k = none :=
      Classical.not_not.mp fun hne => absurd (hseen k hne) (by simpa using hnew)
    have hseen' : ∀ k', dget (dset d k v) k' ≠ none → k' ∈ k :: seen := by
      intro k' hk'
      by_cases e : k = k'
      · exact List.mem_cons.mpr (.inl e.symm)
      · rw [dget_dset_other e] at hk'
        exact List.mem_cons_of_mem _ (hseen k' hk')
    obtain ⟨d', hd', hn', hr', hs', _⟩ := normM_expect o hv r (k :: seen) (dset d k v) (dataSet acc k (expect x)) true hrest
      (reifyD_dset d acc k v (expect x) hr hrv) (dset_sorted d k v hs) hseen'
    refine ⟨d', hd', ?_, hr', hs', fun _ hnil => ?_⟩
    · rw [normMapInto, hn, Outcome.bind_ok, setField_new o d [] hd false k v hk hnone]
      exact hn'
    · -- at least the entry just inserted is there
      subst hnil
      exact expectM_ne_nil r _ (dataSet_ne_nil acc k _) (ok.inj hr').symm
end

mutual
theorem reifyP_cpy : ∀ (v : Val), reifyP (cpy v) = reifyP v
  | .prim p => by simp [cpy]
  | .dyn i e => by simp [cpy]
  | .sub d a hd ha => by
    cases d with
    | nil =>
      cases a with
      | nil => simp [cpy, cpyD, cpyA, reifyP]
      | cons x r =>
        have := reifyA_cpy (x :: r)
        simp only [cpyA] at this
        simp only [cpy, cpyD, cpyA, reifyP, this]
    | cons e r =>
      obtain ⟨k, v⟩ := e
      have hD := reifyD_cpy ((k, v) :: r)
      simp only [cpyD] at hD
      cases a with
      | nil => simp only [cpy, cpyD, cpyA, reifyP, hD]
      | cons x r' =>
        have hI := reifyIdx_cpy 0 (x :: r')
        simp only [cpyA] at hI
        simp only [cpy, cpyD, cpyA, reifyP, hD, hI]
theorem reifyD_cpy : ∀ (d : Dict), reifyD (cpyD d) = reifyD d
  | [] => by simp [cpyD]
  | (k, v) :: r => by simp only [cpyD, reifyD, reifyP_cpy v, reifyD_cpy r]
theorem reifyA_cpy : ∀ (a : List Val), reifyA (cpyA a) = reifyA a
  | [] => by simp [cpyA]
  | v :: r => by simp only [cpyA, reifyA, reifyP_cpy v, reifyA_cpy r]
theorem reifyIdx_cpy : ∀ (i : Nat) (a : List Val), reifyIdx i (cpyA a) = reifyIdx i a
  | _, [] => by simp [cpyA]
  | i, v :: r => by simp only [cpyA, reifyIdx, reifyP_cpy v, reifyIdx_cpy (i + 1) r]
end

end Ucfg
