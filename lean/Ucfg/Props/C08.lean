import Ucfg.Props.C02
/-
  C08 — reference resolution terminates: cycles are errors, everything else resolves.

  The evaluator (Model/Eval.lean) is fuelled: `Outcome.fuel` is a distinct result, never a
  default, and the correspondence check treats it as a disagreement with the implementation.
  What is proved here is the cycle-detection logic itself, for every tree, option set and fuel:
  a re-entered reference is reported, what is active is exactly the chain of references being
  evaluated (so repeated uses and diamonds are not cycles), and FlattenedKeys stops at a config
  it is already visiting.  Sufficiency of a computed amount of fuel for every acyclic graph is
  not proved (PARTIAL): termination of the Go code on the generated graphs is observed by the
  harness under a stack limit and a watchdog.
-/
namespace Ucfg.C08
open Ucfg Outcome

/-- A reference that is re-entered while it is still being evaluated is reported as a cyclic
reference at that point (as a non-critical miss: a resolver that knows the name, or a default
operator, may still absorb it) — it is never followed again. -/
theorem cycle_reported (C : ECtx) (n : Nat) (home : Val) (active : List String) (fs : List Field) (sep : String)
    (cache : Cache) (h : active.contains (pathString fs sep) = true) :
    resolveRef C (n + 1) home active fs sep cache =
      (.ok (.notFound (some { errCyclic with msg := some (pathString fs sep) })), cache) := by
  rw [resolveRef]
  simp only [h, if_true]
  rfl

/-- … and if no resolver knows the name the read fails with that cyclic-reference error -/
theorem cycle_is_error (C : ECtx) (n : Nat) (home : Val) (here active : List String) (fs : List Field) (sep : String)
    (cache : Cache) (h : active.contains (pathString fs sep) = true) (hr : C.opts.resolvers = []) :
    (dynGet C (n + 2) home here active (.ref fs sep) cache).1 =
      .err { errCyclic with msg := some (pathString fs sep) } := by
  rw [dynGet, C02.bind_apply (cycle_reported C n home active fs sep cache h)]
  simp [resolveEnv, hr, resolveEnv.go, EM.fail, errCyclic]

/-- While a reference is looked up it is active — and only then: everything evaluated below it
sees the name, the caller's own scope is what it was. -/
theorem active_while_evaluated (C : ECtx) (n : Nat) (home : Val) (active : List String) (fs : List Field) (sep : String)
    (h : active.contains (pathString fs sep) = false) :
    resolveRef C (n + 1) home active fs sep =
      lookupTrees C n (pathString fs sep :: active) fs (home :: C.opts.env.reverse) :=
  C02.lookup_order C n home active fs sep h

/-- The pieces of one string are evaluated in the same scope, one after the other: a variable used
twice in one string (or reached along two different paths) is not re-entered. -/
theorem repeated_use_same_scope (C : ECtx) (n : Nat) (home : Val) (active : List String) (p : Expr) (rest : List Expr) :
    evalPieces C (n + 1) home active (p :: rest) =
      (do let s ← evalExpr C n home active p
          let r ← evalPieces C n home active rest
          pure (s ++ r)) := by
  rw [evalPieces]

/-- a cached value is returned without any lookup: nothing becomes active, nothing can be re-entered -/
theorem cache_hit (C : ECtx) (n : Nat) (home : Val) (here active : List String) (id : Nat) (e : Expr)
    (cache : Cache) (v : Val) (h : cacheGet cache id = some v) :
    dynValue C (n + 1) home here active id e cache = (.ok (⟨v, home, here⟩, active), cache) := by
  rw [dynValue]
  simp [h]

/-- only primitives are cached (a cached object could hide a cycle through its settings) -/
theorem cache_only_primitives (v : Val) (h : canCache v = true) : ∃ p, v = .prim p := by
  cases v with
  | prim p => exact ⟨p, rfl⟩
  | _ => cases h

/-- FlattenedKeys ends the traversal at a config it is already visiting (a reference back to an
enclosing object), at whatever fuel is left -/
theorem flattened_stops_on_revisit (C : ECtx) (n : Nat) (home : Val) (visiting : List (List String))
    (here : List String) (c : Val) (h : visiting.contains here = true) :
    flattenedKeysE C (n + 1) home visiting here c = .ok [] := by
  rw [flattenedKeysE, if_pos h]

/-- running out of fuel is its own outcome: it is never turned into a value or an error -/
theorem fuel_is_not_a_default (C : ECtx) (home : Val) (active : List String) (e : Expr) (cache : Cache) :
    (evalExpr C 0 home active e cache).1 = .fuel := by
  rw [evalExpr]; rfl

example : (["a", "b"] : List String).contains (pathString [.named "a"] ".") = true := by decide +kernel

end Ucfg.C08
