import Ucfg.Base.F64
/-!
  Integers below 2^53 are exactly representable: `decode (ofInt i)` is a finite value whose truncation is `i`
  (`decode_ofInt`, `ofInt_exact`; what C18 rests on).  Second half: comparing a finite value with an integer constant
  (`finLtInt`) is comparing its truncation with it (`finLtInt_eq_trunc`, `finLtInt_zero`, the `sgn_*` lemmas), and a
  decoded mantissa is below 2^53 (`decode_fin_bound`): what makes the overflow guards of C03 decide the range of the
  truncation.
-/
namespace Ucfg.F64

theorem bitLen_bounds (m : Nat) (hm : m ≠ 0) : 2 ^ (bitLen m - 1) ≤ m ∧ m < 2 ^ bitLen m ∧ 1 ≤ bitLen m := by
  unfold bitLen
  rw [if_neg hm]
  refine ⟨?_, ?_, by omega⟩
  · simpa using Nat.log2_self_le hm
  · exact Nat.lt_log2_self

theorem bitLen_le_of_lt (m k : Nat) (hm : m ≠ 0) (h : m < 2 ^ k) : bitLen m ≤ k := by
  unfold bitLen
  rw [if_neg hm]
  have := (Nat.log2_lt hm).mpr h
  omega

/-- the normalised mantissa of a non-zero m < 2^53 -/
def normMant (m : Nat) : Nat := m * 2 ^ (53 - bitLen m)

/-- a `b`-bit number shifted up to `k` bits has `k` bits -/
theorem shift_bounds {m b k : Nat} (h1 : 2 ^ (b - 1) ≤ m) (h2 : m < 2 ^ b) (hb : 1 ≤ b) (hk : b ≤ k) :
    2 ^ (k - 1) ≤ m * 2 ^ (k - b) ∧ m * 2 ^ (k - b) < 2 ^ k := by
  constructor
  · rw [← Nat.sub_add_sub_cancel hk hb, Nat.pow_add, Nat.mul_comm]
    exact Nat.mul_le_mul_right _ h1
  · have := Nat.mul_lt_mul_of_pos_right h2 (Nat.pow_pos (n := k - b) (by decide : 0 < 2))
    rwa [← Nat.pow_add, Nat.add_sub_of_le hk] at this

theorem normMant_bounds (m : Nat) (hm : m ≠ 0) (h : m < 2 ^ 53) : 2 ^ 52 ≤ normMant m ∧ normMant m < 2 ^ 53 := by
  have ⟨h1, h2, h3⟩ := bitLen_bounds m hm
  exact shift_bounds (k := 53) h1 h2 h3 (bitLen_le_of_lt m 53 hm h)

/-- a number of at most `p` bits whose quantum stays at or above `qmin` is not rounded: it is shifted up to `p` bits -/
theorem roundPos_exact (p : Nat) (qmin : Int) (m : Nat) (e : Int) (hm : m ≠ 0) (hL : bitLen m ≤ p)
    (hq : qmin ≤ e + (bitLen m : Int) - (p : Int)) :
    roundPos p qmin m e = (m * 2 ^ (p - bitLen m), e + (bitLen m : Int) - (p : Int)) := by
  have hsh : e + (bitLen m : Int) - (p : Int) - e = (bitLen m : Int) - (p : Int) := by omega
  have ⟨h1, h2, h3⟩ := bitLen_bounds m hm
  have hlt := (shift_bounds h1 h2 h3 hL).2
  unfold roundPos
  -- the `let`s of the definition
  dsimp only
  rw [if_neg (Int.not_lt.mpr hq), hsh, if_pos (Int.sub_nonpos_of_le (Int.ofNat_le.mpr hL)), Int.neg_sub,
    Int.toNat_sub, if_neg (by unfold pow2; exact Nat.ne_of_lt hlt)]
  rfl

/-- the three fields of `B * (C * q + x) + r`: its remainder by `B`, and the remainder and quotient by `C` of its
quotient by `B` -/
theorem fields_of_pattern {B C x r : Nat} (q : Nat) (hr : r < B) (hx : x < C) :
    (B * (C * q + x) + r) / B % C = x ∧ (B * (C * q + x) + r) % B = r ∧ (B * (C * q + x) + r) / (B * C) = q := by
  have hB : 0 < B := Nat.lt_of_le_of_lt (Nat.zero_le _) hr
  have hq : (B * (C * q + x) + r) / B = C * q + x := by
    rw [Nat.mul_add_div hB, Nat.div_eq_of_lt hr, Nat.add_zero]
  refine ⟨?_, ?_, ?_⟩
  · rw [hq, Nat.mul_add_mod, Nat.mod_eq_of_lt hx]
  · rw [Nat.mul_add_mod, Nat.mod_eq_of_lt hr]
  · rw [← Nat.div_div_eq_div_mul, hq, Nat.mul_add_div (Nat.lt_of_le_of_lt (Nat.zero_le _) hx), Nat.div_eq_of_lt hx,
      Nat.add_zero]

/-- `decode` on a bit pattern given by its sign, exponent and fraction fields -/
theorem decode_fields (s ex fr : Nat) (hs : s < 2) (hex : ex < 2048) (hfr : fr < 2 ^ 52) :
    decode (2 ^ 52 * (2048 * s + ex) + fr) =
      if ex == 2047 then (if fr == 0 then .inf (s == 1) else .nan)
      else if ex == 0 then .fin (s == 1) fr (-1074)
      else .fin (s == 1) (2 ^ 52 + fr) ((ex : Int) - 1075) := by
  obtain ⟨hexp, hr, hsgn⟩ := fields_of_pattern s hfr hex
  unfold decode
  simp only [show (2 : Nat) ^ 63 = 2 ^ 52 * 2048 from rfl, hexp, hr, hsgn, Nat.mod_eq_of_lt hs]

/-- `encode64` of a normal number: the fields side by side -/
theorem encode64_normal (neg : Bool) (fr ex : Nat) (hex : ex < 2047) :
    encode64 neg (2 ^ 52 + fr) ((ex : Int) - 1075) = 2 ^ 52 * (2048 * neg.toNat + ex) + fr := by
  unfold encode64
  rw [if_neg (Nat.not_lt.mpr (Nat.le_add_right _ _)), Int.sub_add_cancel,
    if_neg (show ¬ ((ex : Int) ≥ 2047) from Int.not_le.mpr (Int.ofNat_lt.mpr hex)), Int.toNat_natCast,
    Nat.add_sub_cancel_left]
  cases neg
  · rw [if_neg Bool.false_ne_true, Nat.zero_add, Bool.toNat_false, Nat.mul_zero, Nat.zero_add, Nat.mul_comm]
  · rw [if_pos rfl, Bool.toNat_true, Nat.mul_one, Nat.mul_add, Nat.mul_comm ex]

theorem decode_encode_normal (neg : Bool) (m : Nat) (e : Int) (h1 : 2 ^ 52 ≤ m) (h2 : m < 2 ^ 53)
    (he1 : -1074 ≤ e) (he2 : e + 1075 < 2047) :
    decode (encode64 neg m e) = .fin neg m e := by
  have h0 : 0 ≤ e + 1075 := Int.le_trans (by decide) (Int.add_le_add_right he1 1075)
  obtain ⟨ex, rfl⟩ : ∃ ex : Nat, e = (ex : Int) - 1075 :=
    ⟨(e + 1075).toNat, by rw [Int.toNat_of_nonneg h0, Int.add_sub_cancel]⟩
  obtain ⟨fr, rfl⟩ : ∃ fr, m = 2 ^ 52 + fr := ⟨m - 2 ^ 52, (Nat.add_sub_of_le h1).symm⟩
  rw [Int.sub_add_cancel] at he2
  have hex : ex < 2047 := Int.ofNat_lt.mp he2
  have hfr : fr < 2 ^ 52 := Nat.lt_of_add_lt_add_left (show 2 ^ 52 + fr < 2 ^ 52 + 2 ^ 52 from h2)
  rw [encode64_normal neg fr ex hex, decode_fields _ _ _ (Bool.toNat_lt neg) (Nat.lt_trans hex (by decide)) hfr,
    show (ex == 2047) = false from beq_eq_false_iff_ne.mpr (Nat.ne_of_lt hex),
    show (ex == 0) = false from beq_eq_false_iff_ne.mpr (by omega)]
  cases neg <;> rfl

/-- an integer of magnitude below 2^53 is exactly representable -/
theorem decode_ofInt (i : Int) (h0 : i ≠ 0) (h : i.natAbs < 2 ^ 53) :
    decode (ofInt i) = .fin (decide (i < 0)) (normMant i.natAbs) ((bitLen i.natAbs : Int) - 53) := by
  have hm : i.natAbs ≠ 0 := Int.natAbs_ne_zero.mpr h0
  have hL := bitLen_le_of_lt _ 53 hm h
  have ⟨nb1, nb2⟩ := normMant_bounds _ hm h
  unfold ofInt ofDyadic
  rw [if_neg hm, roundPos_exact 53 (-1074) _ 0 hm hL (by omega), Int.zero_add]
  exact decode_encode_normal _ _ _ nb1 nb2 (by omega) (by omega)

theorem decode_ofInt_zero : decode (ofInt 0) = .fin false 0 (-1074) := by decide +kernel

/-- what was shifted up is shifted down again -/
theorem truncMag_shift (m : Nat) {b k : Nat} (hk : b ≤ k) : truncMag (m * 2 ^ (k - b)) ((b : Int) - (k : Int)) = m := by
  unfold truncMag pow2
  by_cases he : (b : Int) - (k : Int) ≥ 0
  · obtain rfl : b = k := Nat.le_antisymm hk (Int.ofNat_le.mp (Int.le_of_sub_nonneg he))
    rw [if_pos he, Int.sub_self, Nat.sub_self, Int.toNat_zero, Nat.pow_zero, Nat.mul_one, Nat.mul_one]
  · rw [if_neg he, Int.neg_sub, Int.toNat_sub]
    exact Nat.mul_div_cancel _ (Nat.pow_pos (by decide))

theorem truncMag_zero (e : Int) : truncMag 0 e = 0 := by
  unfold truncMag; split <;> simp

theorem sgn_natAbs (i : Int) : sgn (decide (i < 0)) i.natAbs = i := by
  unfold sgn
  split <;> rename_i hn <;> simp only [decide_eq_true_eq] at hn <;> omega

/-- An integer of magnitude below 2^53 is its own float64: a finite value of the same sign whose magnitude
truncates back to the integer's, and that is zero only for zero. -/
theorem ofInt_exact (i : Int) (h : i.natAbs < 2 ^ 53) :
    ∃ m e, decode (ofInt i) = .fin (decide (i < 0)) m e ∧ truncMag m e = i.natAbs ∧ (m = 0 ↔ i = 0) := by
  by_cases h0 : i = 0
  · subst h0
    exact ⟨0, -1074, decode_ofInt_zero, truncMag_zero _, by simp⟩
  · have hm : i.natAbs ≠ 0 := by omega
    have := normMant_bounds _ hm h
    exact ⟨_, _, decode_ofInt i h0 h, truncMag_shift _ (bitLen_le_of_lt _ 53 hm h), by omega⟩

theorem one_le_pow2 (k : Nat) : (1 : Int) ≤ (pow2 k : Int) :=
  Int.ofNat_le.mpr (Nat.pow_pos (by decide))

theorem sgn_mul (neg : Bool) (m k : Nat) : sgn neg (m * k) = sgn neg m * (k : Int) := by
  cases neg <;> simp [sgn, Int.natCast_mul, Int.neg_mul]

theorem sgn_bound (neg : Bool) (m : Nat) : -(m : Int) ≤ sgn neg m ∧ sgn neg m ≤ m := by
  cases neg <;> simp [sgn] <;> omega

theorem sgn_neg_iff (s : Bool) (m : Nat) : sgn s m < 0 ↔ (s && m != 0) = true := by
  cases s <;> simp [sgn] <;> omega

/-- Comparing a finite value with an integer `c` is comparing its truncation with `c` when the
value is itself an integer (`0 ≤ e`) or `c` is at least as far from zero as the mantissa.  With mantissas
below 2^53 this is what makes the guards against ±2^63 and 2^64 decide the range of the truncation. -/
theorem finLtInt_eq_trunc (neg : Bool) (m : Nat) (e c : Int) (h : 0 ≤ e ∨ (m : Int) < c ∨ c ≤ -(m : Int)) :
    finLtInt neg m e c = decide (truncFin neg m e < c) := by
  unfold finLtInt truncFin truncMag
  by_cases he : e ≥ 0
  · simp only [he, if_true, sgn_mul]
  · have hk := one_le_pow2 (-e).toNat
    have hs := sgn_bound neg m
    have ht := sgn_bound neg (m / pow2 (-e).toNat)
    have hd : ((m / pow2 (-e).toNat : Nat) : Int) ≤ m := Int.ofNat_le.mpr (Nat.div_le_self _ _)
    have hm0 : (0 : Int) ≤ m := Int.natCast_nonneg m
    simp only [he, if_false]
    rcases h with h | h | h
    · exact absurd h he
    · -- `c` lies above the value and above its truncation: scaling `c ≥ 0` up only helps
      have hck := Int.mul_le_mul_of_nonneg_left hk (Int.le_trans hm0 (Int.le_of_lt h))
      rw [Int.mul_one] at hck
      rw [decide_eq_true (Int.lt_of_le_of_lt hs.2 (Int.lt_of_lt_of_le h hck)),
        decide_eq_true (Int.lt_of_le_of_lt ht.2 (Int.lt_of_le_of_lt hd h))]
    · -- `c` lies at or below both: scaling `c ≤ 0` up only lowers it
      have hck := Int.mul_le_mul_of_nonpos_left (Int.le_trans h (Int.neg_nonpos_of_nonneg hm0)) hk
      rw [Int.mul_one] at hck
      rw [decide_eq_false (Int.not_lt.mpr (Int.le_trans (Int.le_trans hck h) hs.1)),
        decide_eq_false (Int.not_lt.mpr (Int.le_trans (Int.le_trans h (Int.neg_le_neg hd)) ht.1))]

theorem finLtInt_zero (neg : Bool) (m : Nat) (e : Int) : finLtInt neg m e 0 = (neg && m != 0) := by
  have hk (k : Nat) : sgn neg m * (pow2 k : Int) < 0 ↔ sgn neg m < 0 := by
    have := @Int.mul_lt_mul_right (pow2 k : Int) (sgn neg m) 0 (by have := one_le_pow2 k; omega)
    rwa [Int.zero_mul] at this
  unfold finLtInt
  rw [Bool.eq_iff_iff, ← sgn_neg_iff]
  split <;> simp only [decide_eq_true_eq, hk, Int.zero_mul]

theorem decode_fin_bound {b : Nat} {neg : Bool} {m : Nat} {e : Int} (h : decode b = .fin neg m e) : m < 2 ^ 53 := by
  have hfr : b % 2 ^ 52 < 2 ^ 52 := Nat.mod_lt _ (by decide)
  unfold decode at h
  dsimp only at h
  split at h
  · split at h <;> cases h
  · split at h <;> cases h
    · exact Nat.lt_trans hfr (by decide)
    · exact Nat.add_lt_add_left hfr (2 ^ 52)

end Ucfg.F64
