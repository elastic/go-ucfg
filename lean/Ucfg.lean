import Ucfg.Props.C01
import Ucfg.Props.C02
import Ucfg.Props.C03
import Ucfg.Props.C04
import Ucfg.Props.C05
import Ucfg.Props.C06
import Ucfg.Props.C07
import Ucfg.Props.C08
import Ucfg.Props.C09
import Ucfg.Props.C10
import Ucfg.Props.C11
import Ucfg.Props.C12
import Ucfg.Props.C13
import Ucfg.Props.C14
import Ucfg.Props.C15
import Ucfg.Props.C16
import Ucfg.Props.C17
import Ucfg.Props.C18
import Ucfg.Props.C19
import Ucfg.Props.C20
