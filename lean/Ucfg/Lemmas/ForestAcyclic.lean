import Ucfg.Lemmas.ForestSet
/-!
  Reachability along stored children, and why no config comes to be stored below itself.  NewFrom, Merge and Set* link in
  new nodes only, and every node a deep copy or `buildH` allocates lists only nodes allocated after it (`Up`, `cpy_up`):
  `MInv` (new nodes list later nodes, old nodes list what they listed or new nodes) is `Stable` (`minv_stable`) and keeps a
  heap without cycles without cycles (`minv_noCycle`); `KidsClosed` is carried beside it.  SetChild attaches a node that
  exists: what one such entry - possibly below a chain of new nodes - does to reachability is `Grows`, and `grows_noCycle`
  is the argument Props/C07 instantiates.
-/
namespace Ucfg.Forest

/-- the links "stored below" is about: `Reach`, `NoCycle` and the invariants of this file follow what a node lists, not
the parents the nodes store (those can be stale: Props/C07) -/
def kids (h : Heap) (a : Id) : List Id :=
  match h[a]? with
  | some nd => nd.body.children
  | none => []

/-- `b` is `a` or stored somewhere below it -/
inductive Reach (h : Heap) : Id → Id → Prop where
  | refl (a : Id) : Reach h a a
  | step {a x b : Id} : x ∈ kids h a → Reach h x b → Reach h a b

theorem Reach.trans {h : Heap} {a b c : Id} (r1 : Reach h a b) (r2 : Reach h b c) : Reach h a c := by
  induction r1 with
  | refl => exact r2
  | step hx _ ih => exact .step hx (ih r2)

/-- no config is stored below itself -/
def NoCycle (h : Heap) : Prop := ∀ a x, x ∈ kids h a → ¬ Reach h x a

/-- no dangling entry.  Carried beside `NoCycle`, whose arguments need that what an old node reaches is old
(`reach_lt_length`) -/
def KidsClosed (h : Heap) : Prop := ∀ a x, x ∈ kids h a → x < h.length

theorem reach_lt_length {h : Heap} (kc : KidsClosed h) {a b : Id} (r : Reach h a b) (ha : a < h.length) : b < h.length := by
  induction r with
  | refl => exact ha
  | step hx _ ih => exact ih (kc _ _ hx)

theorem kids_of_node {h : Heap} {a : Id} {nd : Node} (hn : h[a]? = some nd) : kids h a = nd.body.children := by
  unfold kids; rw [hn]

theorem kids_of_getSub {h : Heap} {to : Id} {p f d a} (hg : getSub h to = some (p, f, d, a)) :
    kids h to = d.map (·.2) ++ a := by
  rw [kids_of_node (getSub_node hg)]; rfl

theorem kids_none {h : Heap} {a : Id} (ha : h.length ≤ a) : kids h a = [] := by
  unfold kids; rw [List.getElem?_eq_none ha]

theorem kids_eq_of_node_eq {h h' : Heap} {a : Id} (e : h'[a]? = h[a]?) : kids h' a = kids h a := by
  unfold kids; rw [e]

theorem kids_append_leaf {h : Heap} {nd : Node} (hk : nd.body.children = []) (a : Id) : kids (h ++ [nd]) a = kids h a := by
  by_cases hlt : a < h.length
  · exact kids_eq_of_node_eq (List.getElem?_append_left hlt)
  · rw [kids_none (Nat.le_of_not_lt hlt)]
    by_cases e : a = h.length
    · rw [e, kids_of_node List.getElem?_concat_length, hk]
    · exact kids_none (by
        rw [List.length_append]
        exact Nat.succ_le_of_lt (Nat.lt_of_le_of_ne (Nat.le_of_not_lt hlt) (Ne.symm e)))

/-- relative to the heap `h0` a merge started from (`base = h0.length`): new nodes list later nodes, old nodes list what
they listed in `h0` or new nodes -/
structure MInv (base : Nat) (h0 h : Heap) : Prop where
  up : Up base h
  olds : ∀ a, a < base → ∀ x ∈ kids h a, x ∈ kids h0 a ∨ (base ≤ x ∧ x < h.length)
  len : base ≤ h.length

theorem minv_cpy {base : Nat} {h0 h h1 : Heap} {cf : Nat} {v c : Id} {p : Option Id} {k : String}
    (inv : MInv base h0 h) (hc : cpy cf h v p k = some (h1, c)) :
    MInv base h0 h1 := by
  have u := cpy_up cf h v p k h1 c hc
  obtain ⟨⟨t, rfl⟩, _⟩ := cpy_appends hc
  refine ⟨up_ext t inv.up u, ?_, Nat.le_trans inv.len (Ext.len ⟨_, rfl⟩)⟩
  intro a ha x hx
  have hlt : a < h.length := Nat.lt_of_lt_of_le ha inv.len
  rw [kids_eq_of_node_eq (List.getElem?_append_left hlt)] at hx
  rcases inv.olds a ha x hx with e | ⟨e1, e2⟩
  · exact .inl e
  · exact .inr ⟨e1, Nat.lt_of_lt_of_le e2 (Ext.len ⟨_, rfl⟩)⟩

theorem minv_setBody {base : Nat} {h0 h : Heap} {to : Id} {nd : Node} (inv : MInv base h0 h)
    (hnode : h[to]? = some nd) (b : Body)
    (hb : ∀ x ∈ b.children, x ∈ nd.body.children ∨ (base ≤ x ∧ to < x ∧ x < h.length)) :
    MInv base h0 (setBody h to b) := by
  have hk := kids_of_node hnode
  refine ⟨?_, ?_, by rw [setBody_length]; exact inv.len⟩
  · by_cases hto : base ≤ to
    · apply up_setBody inv.up
      intro x hx
      rcases hb x hx with e | ⟨_, e2, e3⟩
      · exact inv.up to _ hto hnode x e
      · exact ⟨e2, e3⟩
    · intro a' nd' ha hn x hx
      rw [setBody_length]
      have hne : a' ≠ to := fun e => hto (e ▸ ha)
      rw [setBody_other hne] at hn
      exact inv.up a' nd' ha hn x hx
  · intro a' ha x hx
    rw [setBody_length]
    by_cases e : a' = to
    · subst e
      rw [kids_of_node (setBody_same hnode)] at hx
      rcases hb x hx with e1 | ⟨e1, _, e3⟩
      · exact inv.olds a' ha x (by rw [hk]; exact e1)
      · exact .inr ⟨e1, e3⟩
    · rw [kids_eq_of_node_eq (setBody_other e)] at hx
      exact inv.olds a' ha x hx

theorem minv_append_leaf {base : Nat} {h0 h : Heap} (nd : Node) (inv : MInv base h0 h) (hk : nd.body.children = []) :
    MInv base h0 (h ++ [nd]) := by
  refine ⟨up_append_leaf inv.up hk, ?_, Nat.le_trans inv.len (Ext.len ⟨_, rfl⟩)⟩
  intro a ha x hx
  rw [kids_append_leaf hk] at hx
  exact (inv.olds a ha x hx).imp id (fun e => ⟨e.1, Nat.lt_of_lt_of_le e.2 (Ext.len ⟨_, rfl⟩)⟩)

/-- what is linked in lies behind everything there was and behind the node it is linked into (`NewAt`) -/
theorem minv_stable (base : Nat) (h0 : Heap) : Stable base (MInv base h0) (fun _ => True) where
  len := fun inv => inv.len
  alloc := fun inv hk => minv_append_leaf _ inv hk
  link := fun {h to nd b} inv _ hn hsub => minv_setBody inv hn b (fun x hx => by
    obtain ⟨k, e⟩ := mem_children.mp hx
    rcases hsub k x e with e0 | ⟨e1, e2, _, e3⟩
    · exact .inl e0.mem_children
    · exact .inr ⟨e1, e2, lt_of_getElem?_some e3⟩)
  copy := fun inv hc => minv_cpy inv hc
  down := fun _ _ _ _ => trivial
  fresh := fun _ => trivial

/-- `MInv` through the three merge functions: what `merge_stable` says for `minv_stable` -/
structure AClaims (base : Nat) (h0 : Heap) (n : Nat) : Prop where
  mh : ∀ (cf : Nat) (pol : ArrPol) (h h' : Heap) (to frm : Id), MInv base h0 h → mergeH n cf pol h to frm = some h' → MInv base h0 h'
  md : ∀ (cf : Nat) (pol : ArrPol) (h h' : Heap) (to : Id) (fd : List (String × Id)), MInv base h0 h →
    mergeDictH n cf pol h to fd = some h' → MInv base h0 h'
  mi : ∀ (cf : Nat) (pol : ArrPol) (h h' : Heap) (to : Id) (i : Nat) (fa : List Id), MInv base h0 h →
    mergeIdxH n cf pol h to i fa = some h' → MInv base h0 h'

theorem aclaims (base : Nat) (h0 : Heap) : ∀ n, AClaims base h0 n := by
  intro n
  have c := merge_stable (minv_stable base h0) n
  exact ⟨fun cf pol h h' to frm inv he => c.mh inv trivial he,
    fun cf pol h h' to fd inv he => c.md inv trivial he,
    fun cf pol h h' to i fa inv he => c.mi inv trivial he⟩

theorem minv_refl (h0 : Heap) : MInv h0.length h0 h0 := by
  refine ⟨?_, fun a _ x hx => .inl hx, Nat.le_refl _⟩
  intro a nd ha hn
  rw [List.getElem?_eq_none ha] at hn; cases hn

/-- old nodes list what they listed or new nodes, new nodes list later nodes: then nothing closes a cycle -/
theorem noCycle_of_forward {base : Nat} {h0 h : Heap}
    (olds : ∀ a, a < base → ∀ x ∈ kids h a, x ∈ kids h0 a ∨ base ≤ x)
    (news : ∀ a, base ≤ a → ∀ x ∈ kids h a, a < x) (nc : NoCycle h0) : NoCycle h := by
  have up : ∀ {u b}, Reach h u b → base ≤ u → u ≤ b := by
    intro u b r
    induction r with
    | refl a => intro _; exact Nat.le_refl _
    | @step u y b hy _ ih =>
      intro hu
      have hlt := news u hu y hy
      exact Nat.le_trans (Nat.le_of_lt hlt) (ih (Nat.le_trans hu (Nat.le_of_lt hlt)))
  have old : ∀ {u b}, Reach h u b → b < base → u < base ∧ Reach h0 u b := by
    intro u b r
    induction r with
    | refl a => intro hb; exact ⟨hb, .refl a⟩
    | @step u y b hy hr ih =>
      intro hb
      obtain ⟨hyo, ryb⟩ := ih hb
      have huo : u < base := Nat.lt_of_not_le fun hge =>
        absurd (Nat.lt_of_lt_of_le hb hge) (Nat.not_lt.mpr (up (.step hy hr) hge))
      refine ⟨huo, ?_⟩
      rcases olds u huo y hy with e | e
      · exact .step e ryb
      · exact absurd hyo (Nat.not_lt.mpr e)
  intro a x hx hr
  by_cases ha : a < base
  · obtain ⟨hxo, rxa⟩ := old hr ha
    rcases olds a ha x hx with e | e
    · exact nc a x e rxa
    · exact absurd hxo (Nat.not_lt.mpr e)
  · have hge := Nat.le_of_not_lt ha
    have hlt := news a hge x hx
    exact absurd hlt (Nat.not_lt.mpr (up hr (Nat.le_trans hge (Nat.le_of_lt hlt))))

theorem MInv.news {base : Nat} {h0 h : Heap} (inv : MInv base h0 h) (a : Id) (ha : base ≤ a) (x : Id)
    (hx : x ∈ kids h a) : a < x ∧ x < h.length := by
  cases hn : h[a]? with
  | none => rw [kids, hn] at hx; cases hx
  | some nd => rw [kids_of_node hn] at hx; exact inv.up a nd ha hn x hx

theorem MInv.noCycle {base : Nat} {h0 h : Heap} (inv : MInv base h0 h) (nc : NoCycle h0) : NoCycle h :=
  noCycle_of_forward (fun a ha x hx => (inv.olds a ha x hx).imp id (·.1)) (fun a ha x hx => (inv.news a ha x hx).1) nc

theorem MInv.kidsClosed {h0 h : Heap} (inv : MInv h0.length h0 h) (kc : KidsClosed h0) : KidsClosed h := by
  intro a x hx
  by_cases ha : a < h0.length
  · rcases inv.olds a ha x hx with e | ⟨_, e⟩
    · exact Nat.lt_of_lt_of_le (kc a x e) inv.len
    · exact e
  · exact (inv.news a (Nat.le_of_not_lt ha) x hx).2

/-- the invariant keeps a heap free of cycles, and its entries inside the heap -/
theorem minv_noCycle {h0 h : Heap} (inv : MInv h0.length h0 h) (kc : KidsClosed h0) (nc : NoCycle h0) :
    NoCycle h ∧ KidsClosed h :=
  ⟨inv.noCycle nc, inv.kidsClosed kc⟩

/-- what a write through a path does to the entries: below `t` a chain of NEW nodes may hang, ending in `child`; every
other old node lists what it listed, new nodes list newer nodes or `child` -/
structure Grows (h h' : Heap) (t child : Id) : Prop where
  old : ∀ a, a < h.length → a ≠ t → kids h' a = kids h a
  at_t : ∀ x, x ∈ kids h' t → x ∈ kids h t ∨ h.length ≤ x ∨ x = child
  new : ∀ a, h.length ≤ a → ∀ x, x ∈ kids h' a → a < x ∨ x = child

section
variable {h h' : Heap} {t child : Id}

/-- from an old node that does not hold `t`, nothing new is reached -/
theorem reach_from_old (g : Grows h h' t child) (kc : KidsClosed h) {a b : Id} (r : Reach h' a b) :
    a < h.length → ¬ Reach h a t → Reach h a b := by
  induction r with
  | refl a => intro _ _; exact .refl a
  | @step a x b hx _ ih =>
    intro ha hnt
    have hat : a ≠ t := fun e => hnt (e ▸ .refl a)
    rw [g.old a ha hat] at hx
    exact .step hx (ih (kc a x hx) (fun hr => hnt (.step hx hr)))

/-- from a new node one reaches newer nodes, or leaves through `child` -/
theorem reach_from_new (g : Grows h h' t child) {a b : Id} (r : Reach h' a b) :
    h.length ≤ a → (a ≤ b ∧ h.length ≤ b) ∨ Reach h' child b := by
  induction r with
  | refl a => intro ha; exact .inl ⟨Nat.le_refl _, ha⟩
  | @step a x b hx hr ih =>
    intro ha
    rcases g.new a ha x hx with hlt | e
    · rcases ih (Nat.le_trans ha (Nat.le_of_lt hlt)) with ⟨h1, h2⟩ | r2
      · exact .inl ⟨Nat.le_trans (Nat.le_of_lt hlt) h1, h2⟩
      · exact .inr r2
    · subst e; exact .inr hr

/-- between old nodes: what is reached was reached before, or the way leads through `t` and out through `child` -/
theorem reach_split_old (g : Grows h h' t child) (kc : KidsClosed h) {u b : Id} (r : Reach h' u b) :
    u < h.length → b < h.length → Reach h u b ∨ (Reach h u t ∧ Reach h' child b) := by
  induction r with
  | refl a => intro _ _; exact .inl (.refl a)
  | @step u y b hy hr ih =>
    intro hu hb
    by_cases hut : u = t
    · subst hut
      rcases g.at_t y hy with hold | hnew | e
      · rcases ih (kc _ _ hold) hb with l | ⟨_, r2⟩
        · exact .inl (.step hold l)
        · exact .inr ⟨.refl _, r2⟩
      · rcases reach_from_new g hr hnew with ⟨_, h2⟩ | r2
        · exact absurd hb (Nat.not_lt.mpr h2)
        · exact .inr ⟨.refl _, r2⟩
      · subst e; exact .inr ⟨.refl _, hr⟩
    · rw [g.old u hu hut] at hy
      rcases ih (kc _ _ hy) hb with l | ⟨r1, r2⟩
      · exact .inl (.step hy l)
      · exact .inr ⟨.step hy r1, r2⟩

/-- adding `child` below `t` - directly or below a chain of new nodes - keeps the heap free of cycles when `child` does
not hold `t` -/
theorem grows_noCycle (g : Grows h h' t child) (kc : KidsClosed h) (nc : NoCycle h)
    (ht : t < h.length) (hc : child < h.length) (hnot : ¬ Reach h child t) : NoCycle h' := by
  have back : ∀ b, Reach h' child b → Reach h child b := fun b r => reach_from_old g kc r hc hnot
  -- an old node that `child` reaches again leads to `t`: impossible
  have old_edge : ∀ a x, a < h.length → x ∈ kids h a → Reach h' x a → False := by
    intro a x ha hxa hr
    rcases reach_split_old g kc hr (kc a x hxa) ha with l | ⟨r1, r2⟩
    · exact nc a x hxa l
    · exact hnot ((back a r2).trans (.step hxa r1))
  intro a x hx hr
  by_cases ha : a < h.length
  · by_cases hat : a = t
    · subst hat
      rcases g.at_t x hx with hold | hnew | e
      · exact old_edge a x ha hold hr
      · rcases reach_from_new g hr hnew with ⟨_, h2⟩ | r2
        · exact absurd ha (Nat.not_lt.mpr h2)
        · exact hnot (back _ r2)
      · subst e; exact hnot (back _ hr)
    · rw [g.old a ha hat] at hx
      exact old_edge a x ha hx hr
  · -- a new node: it is reached again only through `child`, which reaches old nodes only
    have hge : h.length ≤ a := Nat.le_of_not_lt ha
    have through_child : Reach h' child a → False := fun r =>
      absurd (reach_lt_length kc (back a r) hc) ha
    rcases g.new a hge x hx with hlt | e
    · rcases reach_from_new g hr (Nat.le_trans hge (Nat.le_of_lt hlt)) with ⟨h1, _⟩ | r2
      · exact absurd hlt (Nat.not_lt.mpr h1)
      · exact through_child r2
    · subst e; exact through_child hr

end

theorem kids_attachCtx (h : Heap) (child t : Id) (f : String) (a : Id) : kids (attachCtx h child t f) a = kids h a := by
  unfold attachCtx
  cases hn : h[child]? with
  | none => rfl
  | some n =>
    simp only
    split
    · by_cases e : a = child
      · subst e
        unfold kids
        rw [List.getElem?_set_self (lt_of_getElem?_some hn), hn]
      · unfold kids
        rw [List.getElem?_set_ne (Ne.symm e)]
    · rfl

theorem padTo_kids_other (n : Nat) (h : Heap) (t idx : Nat) (a : Id) (hne : a ≠ t) :
    kids (padTo n h t idx) a = kids h a := by
  fun_induction padTo n h t idx  -- the cases: see `padTo_upd`, Lemmas/ForestSet.lean
  case case3 ih => rw [ih hne, kids_eq_of_node_eq (setBody_other hne), kids_append_leaf rfl]
  case case1 | case2 | case4 => rfl

/-- padding: the new nodes are nulls (they list nothing), `t` lists what it listed and new nodes -/
theorem padTo_kids : ∀ (n : Nat) (h0 : Heap) (t idx : Nat), t < h0.length →
    (∀ a, h0.length ≤ a → kids (padTo n h0 t idx) a = []) ∧
    (∀ x, x ∈ kids (padTo n h0 t idx) t → x ∈ kids h0 t ∨ (h0.length ≤ x ∧ x < (padTo n h0 t idx).length)) :=
  fun n h0 t idx ht =>
    ⟨fun a ha => by rw [padTo_kids_other n h0 t idx a (fun e => absurd ht (e ▸ Nat.not_lt.mpr ha)), kids_none ha],
      -- `MInv.olds` of the padded heap relative to `h0`, read at `t`, is the second claim: padding is `Stable`
      (padTo_stable (minv_stable h0.length h0) n h0 t idx (minv_refl h0) trivial).olds t ht⟩

theorem mem_kids_setBody {h : Heap} {t : Id} {nd : Node} {b : Body} {x : Id} (hn : h[t]? = some nd)
    (hx : x ∈ kids (setBody h t b) t) : ∃ k, Entry b k x := by
  rw [kids_of_node (setBody_same hn)] at hx
  exact mem_children.mp hx

theorem storeSeg_kids (h0 : Heap) (t : Id) (s : Seg) (c : Id) (ht : t < h0.length) :
    (∀ a, a < h0.length → a ≠ t → kids (storeSeg h0 t s c) a = kids h0 a) ∧
    (∀ x, x ∈ kids (storeSeg h0 t s c) t → x ∈ kids h0 t ∨ (h0.length ≤ x ∧ x < (storeSeg h0 t s c).length) ∨ x = c) ∧
    (∀ a, h0.length ≤ a → kids (storeSeg h0 t s c) a = []) := by
  have u := storeSeg_upd h0 t s c
  refine ⟨fun a ha hne => kids_eq_of_node_eq (u.others a ha hne), ?_, ?_⟩
  · -- what `t` lists afterwards: by the entries of the body written (`entry_dictSet`, `setAt_cases`)
    intro x hx
    cases s with
    | name k =>
      unfold storeSeg at hx
      simp only at hx
      split at hx
      · exact .inl hx
      · rename_i p f d a hg
        obtain ⟨k', e⟩ := mem_kids_setBody (getSub_node hg) hx
        rcases entry_dictSet e with e0 | ⟨_, hxc⟩
        · exact .inl (by rw [kids_of_node (getSub_node hg)]; exact e0.mem_children)
        · exact .inr (.inr hxc)
    | idx i =>
      have hx' : x ∈ kids (setAt h0 t i c) t := hx
      show x ∈ kids h0 t ∨ (h0.length ≤ x ∧ x < (setAt h0 t i c).length) ∨ x = c
      rw [setAt_length]
      have pad := (padTo_kids (i + 1) h0 t i ht).2 x
      rcases setAt_cases h0 t i c with ⟨_, e⟩ | ⟨p, f, d, a1, b, hg1, e, hent⟩ <;> rw [e] at hx'
      · exact (pad hx').imp id .inl
      · obtain ⟨k', en⟩ := mem_kids_setBody (getSub_node hg1) hx'
        -- what the padded list listed was listed before or is a new null
        exact (hent k' x en).elim
          (fun e0 => (pad (by rw [kids_of_node (getSub_node hg1)]; exact e0.mem_children)).imp id .inl)
          (fun hc => .inr (.inr hc.2))
  · -- a new node can only be a null of the padding
    intro a ha
    have hne : a ≠ t := fun e => absurd ht (by rw [← e]; exact Nat.not_lt.mpr ha)
    cases s with
    | name k =>
      unfold storeSeg
      simp only
      split
      · exact kids_none ha
      · exact kids_none (by rw [setBody_length]; exact ha)
    | idx i =>
      show kids (setAt h0 t i c) a = []
      have p1 := (padTo_kids (i + 1) h0 t i ht).1 a ha
      rcases setAt_cases h0 t i c with ⟨_, e⟩ | ⟨_, _, _, _, _, _, e, _⟩ <;> rw [e]
      · exact p1
      · rw [kids_eq_of_node_eq (setBody_other hne)]; exact p1

/-- SetChild along a path: what hangs below `t` afterwards is a chain of new nodes ending in `child` -/
theorem setChain_grows (child : Id) : ∀ (rest : List Seg) (h : Heap) (t : Id), t < h.length → child < h.length → rest ≠ [] →
    Grows h (setChain h t rest (.child child)) t child := by
  intro rest
  induction rest with
  | nil => intro h t _ _ hne; exact absurd rfl hne
  | cons s r ih =>
    intro h t ht hc _
    cases r with
    | nil =>
      rw [setChain_child_one]
      have hl := attachCtx_length h child t s.str
      obtain ⟨k1, k2, k3⟩ := storeSeg_kids (attachCtx h child t s.str) t s child (by rw [hl]; exact ht)
      refine ⟨?_, ?_, ?_⟩
      · intro a ha hne
        rw [k1 a (by rw [hl]; exact ha) hne, kids_attachCtx]
      · intro x hx
        rcases k2 x hx with h1 | h1 | h1
        · rw [kids_attachCtx] at h1; exact .inl h1
        · rw [hl] at h1; exact .inr (.inl h1.1)
        · exact .inr (.inr h1)
      · intro a ha x hx
        rw [k3 a (by rw [hl]; exact ha)] at hx
        cases hx
    | cons s2 r2 =>
      rw [setChain_cons2]
      -- the object for `s` is allocated (`hA`), stored below `t` (`h1`), and the rest of the chain hangs below it (`g`).
      -- The node and the two heaps are named so that the rewrites below meet atoms, not the literals
      generalize hnw : (⟨some t, s.str, .sub [] []⟩ : Node) = nw
      generalize hhA : h ++ [nw] = hA
      have hAl : hA.length = h.length + 1 := by rw [← hhA]; simp
      have htA : t < hA.length := by rw [hAl]; exact Nat.lt_succ_of_lt ht
      obtain ⟨k1, k2, k3⟩ := storeSeg_kids hA t s h.length htA
      have hl1' := (storeSeg_upd hA t s h.length).len
      generalize storeSeg hA t s h.length = h1 at *
      have hl1 : h.length + 1 ≤ h1.length := by rw [← hAl]; exact hl1'
      have hc1 : h.length < h1.length := hl1
      have g := ih h1 h.length hc1 (Nat.lt_trans hc hc1) (by simp)
      have hne_t : t ≠ h.length := Nat.ne_of_lt ht
      have kA : ∀ a, kids hA a = kids h a := fun a => by rw [← hhA]; exact kids_append_leaf (by rw [← hnw]; rfl) a
      refine ⟨?_, ?_, ?_⟩
      · -- an old node other than `t`: untouched by the rest of the chain, by the store and by the allocation
        intro a ha hne
        rw [g.old a (Nat.lt_trans ha hc1) (Nat.ne_of_lt ha), k1 a (by rw [hAl]; exact Nat.lt_succ_of_lt ha) hne, kA a]
      · -- `t` itself: the rest of the chain leaves it alone, the store adds the new object
        intro x hx
        rw [g.old t (Nat.lt_trans ht hc1) hne_t] at hx
        rcases k2 x hx with e | e | e
        · rw [kA t] at e; exact .inl e
        · exact .inr (.inl (by rw [hAl] at e; exact Nat.le_of_succ_le e.1))
        · exact .inr (.inl (by rw [e]; exact Nat.le_refl _))
      · -- a new node: one of the rest of the chain (`g.new`), the new object (what `g` says of its target), or a null of
        -- the padding (lists nothing)
        intro a ha x hx
        by_cases hge : h1.length ≤ a
        · exact g.new a hge x hx
        · have halt : a < h1.length := Nat.lt_of_not_le hge
          by_cases e : a = h.length
          · subst e
            rcases g.at_t x hx with e1 | e1 | e1
            · rw [k1 h.length (by rw [hAl]; exact Nat.lt_succ_self _) (Ne.symm hne_t), kA, kids_none (Nat.le_refl _)] at e1
              cases e1
            · exact .inl (Nat.lt_of_lt_of_le hc1 e1)
            · exact .inr e1
          · have hgeA : hA.length ≤ a := by
              rw [hAl]; exact Nat.succ_le_of_lt (Nat.lt_of_le_of_ne ha (Ne.symm e))
            rw [g.old a halt e, k3 a hgeA] at hx
            cases hx

/-- as `Grows`, without a way out of the new nodes: a write that attaches nothing old (Set* itself is an instance of `MInv`:
`C07.setPath_keeps_acyclic`) -/
structure Grows0 (h h' : Heap) (t : Id) : Prop where
  old : ∀ a, a < h.length → a ≠ t → kids h' a = kids h a
  at_t : ∀ x, x ∈ kids h' t → x ∈ kids h t ∨ h.length ≤ x
  new : ∀ a, h.length ≤ a → ∀ x, x ∈ kids h' a → a < x

theorem grows0_noCycle {h h' : Heap} {t : Id} (g : Grows0 h h' t) (nc : NoCycle h) : NoCycle h' := by
  refine noCycle_of_forward (base := h.length) (fun a ha x hx => ?_) g.new nc
  by_cases hat : a = t
  · exact hat ▸ g.at_t x (hat ▸ hx)
  · exact .inl (g.old a ha hat ▸ hx)

theorem kidsClosed_append_leaf {h : Heap} (nd : Node) (kc : KidsClosed h) (hk : nd.body.children = []) :
    KidsClosed (h ++ [nd]) := by
  intro a x hx
  rw [kids_append_leaf hk] at hx
  exact Nat.lt_of_lt_of_le (kc a x hx) (Ext.len ⟨_, rfl⟩)

theorem storeSeg_kidsClosed (h0 : Heap) (t : Id) (s : Seg) (c : Id) (ht : t < h0.length) (hc : c < h0.length)
    (kc : KidsClosed h0) : KidsClosed (storeSeg h0 t s c) := by
  obtain ⟨k1, k2, k3⟩ := storeSeg_kids h0 t s c ht
  have hlen : h0.length ≤ (storeSeg h0 t s c).length := (storeSeg_upd h0 t s c).len
  intro a x hx
  by_cases ha : a < h0.length
  · by_cases e : a = t
    · subst e
      rcases k2 x hx with e1 | ⟨_, e1⟩ | e1
      · exact Nat.lt_of_lt_of_le (kc a x e1) hlen
      · exact e1
      · rw [e1]; exact Nat.lt_of_lt_of_le hc hlen
    · rw [k1 a ha e] at hx
      exact Nat.lt_of_lt_of_le (kc a x hx) hlen
  · rw [k3 a (Nat.le_of_not_lt ha)] at hx
    cases hx

theorem kidsClosed_attachCtx {h : Heap} (child t : Id) (f : String) (kc : KidsClosed h) : KidsClosed (attachCtx h child t f) := by
  intro a x hx
  rw [kids_attachCtx] at hx
  rw [attachCtx_length]
  exact kc a x hx

theorem setChain_child_kidsClosed (child : Id) : ∀ (rest : List Seg) (h : Heap) (t : Id), t < h.length → child < h.length →
    KidsClosed h → KidsClosed (setChain h t rest (.child child)) := by
  intro rest
  induction rest with
  | nil => intro h t _ _ kc; exact kc
  | cons s r ih =>
    intro h t ht hc kc
    cases r with
    | nil =>
      rw [setChain_child_one]
      exact storeSeg_kidsClosed _ t s child (by rw [attachCtx_length]; exact ht) (by rw [attachCtx_length]; exact hc)
        (kidsClosed_attachCtx child t s.str kc)
    | cons s2 r2 =>
      rw [setChain_cons2]
      have kcA : KidsClosed (h ++ [(⟨some t, s.str, .sub [] []⟩ : Node)]) := kidsClosed_append_leaf _ kc rfl
      have kc1 := storeSeg_kidsClosed _ t s h.length (Nat.lt_of_lt_of_le ht (Ext.len ⟨_, rfl⟩))
        (lt_of_getElem?_some List.getElem?_concat_length) kcA
      have hl1 := (storeSeg_upd (h ++ [(⟨some t, s.str, .sub [] []⟩ : Node)]) t s h.length).len
      have hlt : h.length < (storeSeg (h ++ [(⟨some t, s.str, .sub [] []⟩ : Node)]) t s h.length).length :=
        Nat.lt_of_lt_of_le (by simp) hl1
      exact ih _ h.length hlt (Nat.lt_trans hc hlt) kc1

end Ucfg.Forest
